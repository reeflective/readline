import RLV.Gen.Binds
import RLV.Gen.CompFacts
import RLV.Gen.Effects
import RLV.Gen.KeyStack
import RLV.Gen.Unicode
import RLV.Lemmas.AcceptFrame
import RLV.Lemmas.CompLine
import RLV.Lemmas.Conds
import RLV.Lemmas.Cpr
import RLV.Lemmas.Cursor
import RLV.Lemmas.Dispatch
import RLV.Lemmas.DispatchKeys
import RLV.Lemmas.Esc
import RLV.Lemmas.Frame
import RLV.Lemmas.G
import RLV.Lemmas.GenTables
import RLV.Lemmas.HistCalls
import RLV.Lemmas.HistFile
import RLV.Lemmas.HistWalk
import RLV.Lemmas.HistWrite
import RLV.Lemmas.KeyQueue
import RLV.Lemmas.KeyMeasure
import RLV.Lemmas.KillCmds
import RLV.Lemmas.Layout
import RLV.Lemmas.Line
import RLV.Lemmas.Loop
import RLV.Lemmas.Macro
import RLV.Lemmas.MatchOut
import RLV.Lemmas.MatchTyped
import RLV.Lemmas.MenuCycle
import RLV.Lemmas.MenuGroups
import RLV.Lemmas.MenuSel
import RLV.Lemmas.Move
import RLV.Lemmas.MLoopEq
import RLV.Lemmas.NoSpin
import RLV.Lemmas.ParseTotal
import RLV.Lemmas.RefreshRun
import RLV.Lemmas.RefreshToks
import RLV.Lemmas.ScanTotal
import RLV.Lemmas.Sel
import RLV.Lemmas.Stream
import RLV.Lemmas.StreamLoop
import RLV.Lemmas.StrTable
import RLV.Lemmas.TermDraw
import RLV.Lemmas.TermLin
import RLV.Lemmas.TermMoves
import RLV.Lemmas.TokTotal
import RLV.Lemmas.TypedTables
import RLV.Lemmas.TypedUnicode
import RLV.Lemmas.Undo
import RLV.Lemmas.Utf8
import RLV.Model.Bind
import RLV.Model.Comp
import RLV.Model.CompLine
import RLV.Model.Core
import RLV.Model.Cpr
import RLV.Model.Disp
import RLV.Model.Esc
import RLV.Model.Handoff
import RLV.Model.Hist
import RLV.Model.HistCalls
import RLV.Model.HistFile
import RLV.Model.HistWrite
import RLV.Model.Keys
import RLV.Model.Kill
import RLV.Model.Loop
import RLV.Model.MLoop
import RLV.Model.Macro
import RLV.Model.Menu
import RLV.Model.MenuSel
import RLV.Model.Move
import RLV.Model.Parser
import RLV.Model.Scan
import RLV.Model.Sel
import RLV.Model.Term
import RLV.Model.TermRun
import RLV.Model.Tok
import RLV.Model.Uni
import RLV.Model.Utf8
import RLV.Model.ViOps
import RLV.Props.C01
import RLV.Props.C02
import RLV.Props.C03
import RLV.Props.C04
import RLV.Props.C05
import RLV.Props.C06
import RLV.Props.C07
import RLV.Props.C08
import RLV.Props.C09
import RLV.Props.C10
import RLV.Props.C11
import RLV.Props.C12
import RLV.Props.C13
import RLV.Props.C14
import RLV.Props.C15
import RLV.Props.C16
import RLV.Props.C17
import RLV.Props.C18
import RLV.Props.C19
import RLV.Props.C20
