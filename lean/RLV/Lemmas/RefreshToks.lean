import RLV.Lemmas.Layout
/-! The token streams of `Disp.refresh` (on the buffer made of the lines `first :: rest`) and `Disp.acceptLine`, written
out as functions of the layout numbers. -/
namespace RLV.Disp
open RLV.Term

/-- the line ends on the last column of a row (the `atMargin` of `displayLine` and of `refresh`) -/
def atMargin (w indent : Nat) (ln : List Nat) : Bool := (ln.length + indent) % w == 0 && ln.length + indent > 0

/-- the text of one line, then the rest of its last row erased (the next row when the text ends on the last column) -/
def bodyToks (w indent : Nat) (ln : List Nat) : List Tk :=
  (if ln.isEmpty then [] else [.text ln]) ++ (if atMargin w indent ln then [.crlf] else []) ++ [.el0]

/-- the indentation of a line that is not the first -/
def headToks (indent : Nat) : List Tk := mv .cuf indent ++ [.el1]

def moreToks (w indent : Nat) : List (List Nat) → List Tk
  | [] => []
  | ln :: rest => [.crlf] ++ headToks indent ++ bodyToks w indent ln ++ moreToks w indent rest

/-- one line of `displayLine`: `p` is the line and its number, `last` the number of the last line -/
def dlLine (w indent last : Nat) (clr : Bool) (p : List Nat × Nat) : List Tk :=
  (if p.2 > 0 then headToks indent else []) ++
  (if p.1.isEmpty then [] else [.text p.1]) ++
  (if p.2 = last && clr then [.el0] else []) ++
  (if !(p.2 = last) then (if atMargin w indent p.1 then [.crlf, .el0] else [.el0]) ++ [.crlf] else [])

theorem displayLine_eq (w indent : Nat) (l : List Nat) (clr : Bool) :
    displayLine w indent l clr =
      ((splitNL l).zipIdx.map (dlLine w indent ((splitNL l).length - 1) clr)).flatten := rfl

/-- `displayLine` on the lines `a :: rest`, numbered from `k`, with what `refresh` writes right after it: when the last
line ends on the last column `displayLine` leaves its erasure out (`clr = false`) and `refresh` writes `CRLF`, `EL0`. -/
theorem dl_lines (w indent : Nat) :
    ∀ (rest : List (List Nat)) (a : List Nat) (k last : Nat), last = k + rest.length →
    (((a :: rest).zipIdx k).map (dlLine w indent last (!atMargin w indent (rest.getLastD a)))).flatten ++
        (if atMargin w indent (rest.getLastD a) then [.crlf, .el0] else []) =
      (if k > 0 then headToks indent else []) ++ bodyToks w indent a ++ moreToks w indent rest
  | [], a, k, last, hlast => by
    obtain rfl : last = k := hlast
    rw [List.getLastD_nil]
    simp only [List.zipIdx_cons, List.zipIdx_nil, List.map_cons, List.map_nil, List.flatten_cons,
      List.flatten_nil, List.append_nil, moreToks, dlLine, bodyToks, decide_true, Bool.true_and, Bool.not_true,
      Bool.false_eq_true, if_false, List.append_assoc]
    cases atMargin w indent a <;> rfl
  | b :: t, a, k, last, hlast => by
    rw [List.length_cons] at hlast
    have hk : k ≠ last := by omega
    have ih := dl_lines w indent t b (k + 1) last (by omega)
    simp only [List.zipIdx_cons, List.map_cons, List.flatten_cons, List.append_assoc, List.getLastD_cons] at ih ⊢
    rw [ih, if_pos (Nat.succ_pos k)]
    simp only [dlLine, decide_eq_false hk, Bool.false_and, Bool.not_false, Bool.false_eq_true, if_true, if_false,
      bodyToks, moreToks, List.append_nil, List.append_assoc]
    cases atMargin w indent a <;> rfl

/-- `displayMultilinePrompts` for `n + 1` lines: the input takes `lineRows` rows below its first, the last line ends
`lastRows` rows below its own first row, in column `lineCol` -/
def secToks (w indent : Nat) (sec : List Nat) (n lineRows lastRows lineCol : Nat) : List Tk :=
  (if n > 1 then mv .cuu lineRows ++ mv .cub w ++ mv .cud lineRows else []) ++
  (if n > 0 then mv .cuu lastRows ++ mv .cub w ++ (if sec.length ≤ indent then [.text sec] else []) ++
      mv .cud lastRows ++ mv .cub w ++ mv .cuf lineCol else [])

/-- the secondary prompt as shown with a buffer of `n + 1` lines -/
def secShown (indent : Nat) (sec : List Nat) (n : Nat) : List Nat := if 0 < n ∧ sec.length ≤ indent then sec else []

theorem secShown_length (indent : Nat) (sec : List Nat) (n : Nat) :
    (secShown indent sec n).length ≤ indent ∧ ((secShown indent sec n).length ≠ 0 → 0 < n) := by
  unfold secShown
  split
  next h => exact ⟨h.2, fun _ => h.1⟩
  next => exact ⟨Nat.zero_le _, fun h => absurd rfl h⟩

/-- from the row below the input back to the cursor cell (the last move of `displayHelpers`, then
`cursorHintToLineStart`, `lineStartToCursorPos`) -/
def backToks (w indent lineRows cursorCol cursorRow : Nat) : List Tk :=
  mv .cub w ++ mv .cuu 1 ++ mv .cuu ((lineRows : Int) - cursorRow) ++ mv .cub cursorCol ++ mv .cuu cursorRow ++
  mv .cuf indent ++ mv .cud cursorRow ++ mv .cub w ++ mv .cuf cursorCol ++ [.show_]

/-- the redisplay of the lines `first :: rest`, the cursor cell given; `primaryPrinted = false`, as on every call but
the one after `PrintPrimaryPrompt` (clear-screen) -/
def frameToks (w : Nat) (prompt sec first : List Nat) (rest : List (List Nat)) (prevRow cursorCol cursorRow : Nat) :
    List Tk :=
  let lineRows := (first.length + prompt.length) / w + rowsOfLines w prompt.length rest
  let lastLen := (rest.getLastD first).length + prompt.length
  ([.hide] ++ mv .cub w ++ mv .cuu prevRow) ++
  ((if prompt.isEmpty then [] else [.text prompt]) ++ [.dsr] ++ bodyToks w prompt.length first) ++
  moreToks w prompt.length rest ++
  secToks w prompt.length sec rest.length lineRows (lastLen / w) (lastLen % w) ++
  [.crlf, .el0, .ed0] ++ backToks w prompt.length lineRows cursorCol cursorRow

/-- everything computed but the cursor cell, which `frame_run` (Lemmas/RefreshRun) takes as any cell inside the input -/
theorem refresh_eq (w : Nat) (prompt sec first : List Nat) (rest : List (List Nat)) (pos prevRow : Nat)
    (hfree : ∀ ln ∈ first :: rest, 10 ∉ ln) :
    refresh w prompt sec prevRow false (joinNL (first :: rest)) pos =
      frameToks w prompt sec first rest prevRow (coordsCursor w (joinNL (first :: rest)) pos prompt.length).1
        (coordsCursor w (joinNL (first :: rest)) pos prompt.length).2 := by
  have hne : (first :: rest) ≠ [] := List.cons_ne_nil _ _
  have hdl := dl_lines w prompt.length rest first 0 rest.length (Nat.zero_add _).symm
  simp only [Nat.lt_irrefl, if_false, List.nil_append] at hdl
  unfold refresh frameToks secToks backToks
  dsimp only
  -- the last line (`lastRows`, `atMargin`) is `rest.getLastD first`; `displayLine` with the erasure `refresh` writes
  -- after it is `hdl`
  rw [coordsLine_join w prompt.length first rest hfree, splitNL_join _ hne hfree, countNL_join _ hne hfree,
    displayLine_eq, splitNL_join _ hne hfree, List.getLast?_cons, ← List.getLastD_eq_getLast?]
  have hm : ∀ ln : List Nat, ((ln.length + prompt.length) % w == 0 && decide (ln.length + prompt.length > 0)) =
      atMargin w prompt.length ln := fun _ => rfl
  have hl1 : ∀ ln : List Nat, lineSpan w ln 0 prompt.length =
      ((ln.length + prompt.length) % w, (ln.length + prompt.length) / w) := fun _ => rfl
  simp only [Option.getD_some, hm, hl1, List.length_cons, Nat.add_sub_cancel, Bool.not_false, if_true,
    List.append_assoc]
  rw [← List.append_assoc (List.flatten _), hdl]
  simp only [List.append_assoc]

def acceptToks (w indent cursorCol cursorRow lineRows lineCol : Nat) : List Tk :=
  mv .cub cursorCol ++ mv .cuu cursorRow ++ mv .cuf indent ++ [.dsr] ++ mv .cub w ++ mv .cud lineRows ++
  mv .cuf lineCol ++ [.ed0] ++ mv .cub w ++ [.crlf]

theorem acceptLine_eq (w : Nat) (prompt l : List Nat) (pos : Nat) :
    acceptLine w prompt l pos =
      acceptToks w prompt.length (coordsCursor w l pos prompt.length).1 (coordsCursor w l pos prompt.length).2
        (coordsLine w l prompt.length).2 (coordsLine w l prompt.length).1 := rfl

end RLV.Disp
