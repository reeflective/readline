import RLV.Model.Core
/-! `G = Except Panic`, a Go function that may panic: the equations to step through a `do` block that computes a
result, and `Ok` / `bind_spec` for statements that a function returns (a value of which `P` holds). -/
namespace RLV.Core

variable {α β : Type}

theorem ok_bind (a : α) (f : α → G β) : (Except.ok a >>= f) = f a := rfl

theorem pure_eq (a : α) : (pure a : G α) = .ok a := rfl

/-- `g` returns: a value, not a Go panic -/
def Ok (g : G α) : Prop := ∃ v, g = .ok v

theorem Ok.ret (x : α) : Ok (pure x : G α) := ⟨x, rfl⟩

theorem Ok.bind {g : G α} {k : α → G β} {v : α} (hg : g = .ok v) (hk : Ok (k v)) : Ok (g >>= k) := by
  rw [hg]
  exact hk

theorem Ok.seq {g : G α} {k : α → G β} (hg : Ok g) (hk : ∀ v, Ok (k v)) : Ok (g >>= k) :=
  let ⟨_, hv⟩ := hg
  .bind hv (hk _)

theorem Ok.cases {c : Prop} [Decidable c] {a b : G α} (ha : c → Ok a) (hb : ¬ c → Ok b) :
    Ok (if c then a else b) := by
  split
  next h => exact ha h
  next h => exact hb h

/-- `if c { return x }` -/
theorem Ok.unless {c : Prop} [Decidable c] {x : α} {b : G α} (hb : ¬ c → Ok b) : Ok (if c then pure x else b) :=
  .cases (fun _ => .ret _) hb

theorem Ok.ite {c : Prop} [Decidable c] {a b : G α} (ha : Ok a) (hb : Ok b) : Ok (if c then a else b) :=
  .cases (fun _ => ha) (fun _ => hb)

theorem bind_spec {g : G α} {k : α → G β} (P : α → Prop) {Q : β → Prop}
    (hg : ∃ v, g = .ok v ∧ P v) (hk : ∀ v, P v → ∃ w, k v = .ok w ∧ Q w) : ∃ w, (g >>= k) = .ok w ∧ Q w := by
  obtain ⟨v, hv, hP⟩ := hg
  rw [hv]
  exact hk v hP

theorem Ok.bind_spec {g : G α} {k : α → G β} (P : α → Prop) (hg : ∃ v, g = .ok v ∧ P v)
    (hk : ∀ v, P v → Ok (k v)) : Ok (g >>= k) :=
  let ⟨v, hv, hP⟩ := hg
  .bind hv (hk v hP)

theorem bind_ok {x : G α} {f : α → G β} {b : β} (h : (x >>= f) = .ok b) :
    ∃ a, x = .ok a ∧ f a = .ok b := by
  cases x with
  | error e => cases h
  | ok a => exact ⟨a, rfl, h⟩

end RLV.Core
