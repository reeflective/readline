import RLV.Lemmas.Frame
import RLV.Lemmas.TermDraw
/-! `Disp.refresh` run on the terminal model: for each part of the token stream the cells it paints and where it leaves
the cursor, then the whole frame (`Disp.frame`). Width-1 glyphs. -/
namespace RLV.Term
open RLV.Disp

/-- Of the state the earlier frame left only `WF` and the row are known: the cursor may be in any column with a wrap
pending, which the `CUB w` clears. -/
theorem toPromptRow_run (w prevRow r0 : Nat) (t : Term) (hw : t.w = w) (hwf : t.WF) (hy : t.y = r0 + prevRow) :
    let t' := t.run ([.hide] ++ mv .cub w ++ mv .cuu prevRow)
    At t' w 0 r0 ∧ t'.lin = t.lin := by
  have hw0 : 0 < w := hw ▸ hwf.1
  have hx : t.x ≤ w := hw ▸ Nat.le_of_lt hwf.2.1
  have h0 : At (t.cub w) w 0 (r0 + prevRow) := ⟨⟨hw, Nat.sub_eq_zero_of_le hx, hy⟩, rfl⟩
  have mup : Moves w (mv .cuu prevRow) (0, r0 + prevRow) (0, r0) :=
    (Moves.cuu prevRow).to rfl (Nat.add_sub_cancel ..)
  dsimp only
  rw [run_append, mv_nat, if_neg (Nat.ne_of_gt hw0)]
  -- `run` unfolds: `[.hide] ++ [.cub w]` takes `t` to `t.cub w`, which has the cells of `t`
  exact h0.moves mup

/-- One line painted on rows of its own, the cursor being after its prefix `pre` (the prompt, or the blank indentation).
`hpre`: `t` differs from `s` by `pre` and in the `k` cells after it: `EL1` erases the cursor cell along with the
indentation (`k = 1`); `bodyToks` rewrites at least one cell, so they do not show in the result. -/
theorem line_paint {s : Nat → Nat} {t : Term} {w indent R k : Nat} {pre : List Nat} (hlen : pre.length = indent)
    (h : At t w indent R) (hi : indent < w) (hpre : Seg s t.lin (R * w) (indent + k) (pre.getD · blank)) (hk : k ≤ 1)
    (ln : List Nat) :
    let t' := t.run (bodyToks w indent ln)
    At t' w ((ln.length + indent) % w) (R + (ln.length + indent) / w) ∧
    Seg s t'.lin (R * w) (blockRows w indent ln * w) ((pre ++ ln).getD · blank) := by
  subst hlen
  obtain ⟨a1, s1⟩ := text_at h hi ln
  obtain ⟨a2, s2⟩ := el0_at a1 (Nat.mod_lt _ (by omega))
  dsimp only
  rw [bodyToks, run_append, run_append, run_text]
  refine ⟨a2, ?_⟩
  have hn := Nat.div_add_mod' (ln.length + pre.length) w
  have hlt := Nat.mod_lt (ln.length + pre.length) (show 0 < w by omega)
  have ea : (R + (ln.length + pre.length) / w) * w + (ln.length + pre.length) % w = R * w + pre.length + ln.length := by
    rw [Nat.add_mul]
    omega
  have en : blockRows w pre.length ln * w = pre.length + (ln.length + (w - (ln.length + pre.length) % w)) := by
    rw [blockRows, Nat.add_mul, Nat.one_mul]
    omega
  rw [ea] at s2
  rw [en]
  have hg : ∀ d, (if d < ln.length then ln.getD d blank else blank) = ln.getD d blank := fun d => by
    split
    · rfl
    · exact (getD_of_le (by omega) _).symm
  exact (hpre.append_over ((s1.append s2).congr fun d _ => hg d) (by omega)).congr
    fun d _ => (getD_append pre ln d blank).symm

/-- `a` is the line before `rest`, at whose end the cursor is -/
theorem more_paint (w indent : Nat) (hi : indent < w) :
    ∀ (rest : List (List Nat)) (a : List Nat) (t : Term) (y : Nat),
    At t w ((a.length + indent) % w) y →
    let t' := t.run (moreToks w indent rest)
    At t' w (((rest.getLastD a).length + indent) % w) (y + rowsOfLines w indent rest) ∧
    Seg t.lin t'.lin ((y + 1) * w) (rowsOfLines w indent rest * w) (expectMore w indent rest)
  | [], a, t, y, h => by
    rw [rowsOfLines, Nat.zero_mul]
    exact ⟨h, Seg.nil _ _ _⟩
  | ln :: rest, a, t, y, h => by
    dsimp only
    simp only [moreToks, headToks, List.append_assoc, run_append]
    have mcuf : Moves w (mv .cuf indent) (0, y + 1) (indent, y + 1) :=
      (Moves.cuf indent (Nat.zero_lt_of_lt hi)).to (by omega) rfl
    obtain ⟨a1, l1⟩ := h.crlf.moves mcuf
    obtain ⟨a2, s2⟩ := el1_at a1 hi
    rw [l1] at s2
    obtain ⟨a3, s3⟩ := line_paint (pre := List.replicate indent blank) List.length_replicate a2 hi
      (s2.congr fun d _ => (getD_replicate ..).symm) (Nat.le_refl 1) ln
    obtain ⟨c1, c2⟩ := more_paint w indent hi rest ln _ _ a3
    have e : (y + 1 + (ln.length + indent) / w + 1) * w = (y + 1) * w + blockRows w indent ln * w := by
      simp only [blockRows, Nat.add_mul]
      omega
    have ey : y + 1 + (ln.length + indent) / w + rowsOfLines w indent rest =
        y + (blockRows w indent ln + rowsOfLines w indent rest) := by
      rw [blockRows]
      omega
    rw [e] at c2
    rw [ey] at c1
    rw [List.getLastD_cons, rowsOfLines, Nat.add_mul (blockRows w indent ln)]
    exact ⟨c1, s3.append c2⟩

theorem first_paint {t : Term} {w r0 : Nat} (h : At t w 0 r0) (prompt first : List Nat) (hpr : prompt.length < w) :
    let t' := t.run ((if prompt.isEmpty then [] else [.text prompt]) ++ [.dsr] ++ bodyToks w prompt.length first)
    At t' w ((first.length + prompt.length) % w) (r0 + (first.length + prompt.length) / w) ∧
    Seg t.lin t'.lin (r0 * w) (blockRows w prompt.length first * w) ((prompt ++ first).getD · blank) := by
  dsimp only
  rw [run_append, run_append, run_text]
  obtain ⟨a1, s1⟩ := text_short h prompt hpr
  exact line_paint rfl a1 hpr s1 (Nat.zero_le 1) first

/-- `R` is the first row of the last line; the cursor's row `y` is at least `lineRows` (`hrows`), so that going up and
down by `lineRows` comes back to it. -/
theorem sec_paint {t : Term} {w indent lineCol y R : Nat} (h : At t w lineCol y) (sec : List Nat)
    (n lineRows lastRows : Nat) (hrows : lineRows ≤ y) (hi : indent < w) (hlc : lineCol < w)
    (hR : 0 < n → R + lastRows = y) :
    let t' := t.run (secToks w indent sec n lineRows lastRows lineCol)
    At t' w lineCol y ∧
    Seg t.lin t'.lin (R * w) (secShown indent sec n).length ((secShown indent sec n).getD · blank) := by
  intro t'
  by_cases hn : n > 0
  · have hR := hR hn
    have e : ∀ u : Term, u.run (if sec.length ≤ indent then [.text sec] else []) =
        u.puts (secShown indent sec n) := by
      intro u
      simp only [secShown, hn, true_and]
      split <;> rfl
    generalize hup : (if n > 1 then mv .cuu lineRows ++ mv .cub w ++ mv .cud lineRows else []) ++
      (mv .cuu lastRows ++ mv .cub w) = up
    have hrun : t' =
        ((t.run up).puts (secShown indent sec n)).run (mv .cud lastRows ++ mv .cub w ++ mv .cuf lineCol) := by
      show t.run _ = _
      rw [secToks, if_pos hn, ← hup]
      simp only [List.append_assoc, run_append, e]
    have hsl := (secShown_length indent sec n).1
    -- with three lines or more the engine first goes up and down by the rows of the input, which leaves it in column
    -- `lineCol - w`: that is 0, and the second `CUB w` goes to column 0 from any column
    have mup : Moves w up (lineCol, y) (0, R) := by
      rw [← hup]
      refine Moves.append (p1 := (lineCol - if n > 1 then w else 0, y)) ?_
        (((Moves.cuu lastRows).append (.cub w)).to (by omega) (by omega))
      split
      · exact ((Moves.cuu lineRows).append (.cub w) |>.append (.cud lineRows)).to (by omega) (by omega)
      · exact .nil
    obtain ⟨a1, l1⟩ := h.moves mup
    obtain ⟨a2, s2⟩ := text_short a1 (secShown indent sec n) (by omega)
    have mback : Moves w (mv .cud lastRows ++ mv .cub w ++ mv .cuf lineCol) ((secShown indent sec n).length + 0, R)
        (lineCol, y) :=
      (Moves.cud lastRows).append (.cub w) |>.append (.cuf lineCol (by omega)) |>.to (by omega) (by omega)
    obtain ⟨a3, l3⟩ := a2.moves mback
    rw [hrun, l3, ← l1, ← Nat.add_zero (R * w)]
    exact ⟨a3, s2⟩
  · have h0 : n = 0 := by omega
    subst h0
    exact ⟨h, Seg.nil _ _ _⟩

theorem erase_below {t : Term} {w x y : Nat} (h : At t w x y) (hw0 : 0 < w) :
    let t' := t.run [.crlf, .el0, .ed0]
    At t' w 0 (y + 1) ∧ ∀ i, t'.lin i = if (y + 1) * w ≤ i then blank else t.lin i := by
  intro t'
  obtain ⟨a1, s1⟩ := el0_at h.crlf hw0
  refine ⟨⟨a1.toPos.ed0, a1.pw⟩, fun i => ?_⟩
  show (t.crlf.el0).ed0.lin i = _
  rw [ed0_lin a1.toPos hw0 i, Nat.add_zero]
  split
  · rfl
  · rw [s1 i, if_neg (by omega)]
    rfl

theorem back_run {t : Term} {w r0 lineRows : Nat} (h : At t w 0 (r0 + lineRows + 1))
    (indent cursorCol cursorRow : Nat) (hrow : cursorRow ≤ lineRows) (hcol : cursorCol < w) :
    let t' := t.run (backToks w indent lineRows cursorCol cursorRow)
    At t' w cursorCol (r0 + cursorRow) ∧ t'.lin = t.lin := by
  have m : Moves w (backToks w indent lineRows cursorCol cursorRow) (0, r0 + lineRows + 1) (cursorCol, r0 + cursorRow) :=
    (Moves.cub w).append (.cuu 1) |>.append (.cuuI _) |>.append (.cub cursorCol) |>.append (.cuu cursorRow)
      |>.append (.cuf indent (by omega)) |>.append (.cud cursorRow) |>.append (.cub w)
      |>.append (.cuf cursorCol (by omega)) |>.append .show_ |>.to (by omega) (by omega)
  exact h.moves m

theorem frame_run (w : Nat) (prompt sec first : List Nat) (rest : List (List Nat))
    (prevRow r0 cursorCol cursorRow : Nat) (t : Term) (hw : t.w = w) (hwf : t.WF) (hy : t.y = r0 + prevRow)
    (hpr : prompt.length < w)
    (hrow : cursorRow < rowsOfLines w prompt.length (first :: rest)) (hcol : cursorCol < w) :
    let t' := t.run (frameToks w prompt sec first rest prevRow cursorCol cursorRow)
    At t' w cursorCol (r0 + cursorRow) ∧
    ∀ i, t'.lin i = if i < r0 * w then t.lin i else frame w prompt sec first rest (i - r0 * w) := by
  have hw0 : 0 < w := by omega
  have hlast : 0 < rest.length → rowsOfLines w prompt.length rest =
      rowsOfLines w prompt.length rest.dropLast + (((rest.getLastD first).length + prompt.length) / w + 1) :=
    fun h => rowsOfLines_dropLast w prompt.length rest first (List.length_pos_iff.mp h)
  dsimp only
  rw [frameToks]
  rw [rowsOfLines, blockRows] at hrow
  generalize hlr : (first.length + prompt.length) / w + rowsOfLines w prompt.length rest = lineRows
  rw [run_append, run_append, run_append, run_append, run_append]
  obtain ⟨a1, l1⟩ := toPromptRow_run w prevRow r0 t hw hwf hy
  obtain ⟨a2, s2⟩ := first_paint a1 prompt first hpr
  rw [l1] at s2
  obtain ⟨a3, s3⟩ := more_paint w prompt.length hpr rest first _ _ a2
  rw [Nat.add_assoc, hlr] at a3
  have hR : 0 < rest.length → r0 + (blockRows w prompt.length first + rowsOfLines w prompt.length rest.dropLast) +
      ((rest.getLastD first).length + prompt.length) / w = r0 + lineRows := fun h => by
    rw [← hlr, hlast h, blockRows]
    omega
  obtain ⟨a4, s4⟩ := sec_paint a3 sec rest.length lineRows _ (by omega) hpr (Nat.mod_lt _ hw0) hR
  rw [Nat.add_mul, Nat.add_mul] at s4
  obtain ⟨a5, l5⟩ := erase_below a4 hw0
  obtain ⟨a6, l6⟩ := back_run a5 prompt.length cursorCol cursorRow (by omega) hcol
  refine ⟨a6, fun i => ?_⟩
  have e3 : (r0 + (first.length + prompt.length) / w + 1) * w = r0 * w + blockRows w prompt.length first * w := by
    simp only [blockRows, Nat.add_mul]
    omega
  have hE : (r0 + lineRows + 1) * w =
      r0 * w + (blockRows w prompt.length first * w + rowsOfLines w prompt.length rest * w) := by
    rw [← hlr]
    simp only [blockRows, Nat.add_mul]
    omega
  rw [e3] at s3
  rw [hE] at l5
  rw [l6]
  -- the prompt and the lines are one stretch from the start of row `r0`; the secondary prompt lies inside it (in the
  -- block of the last line); blanks below
  have hsh := secShown_length prompt.length sec rest.length
  refine ((s2.append s3).inside s4 (fun h => ?_)).erased_beyond l5
    (fun d hd => frame_after_end w prompt sec first rest d hw0 ?_) i
  · rw [hlast (hsh.2 h), Nat.add_mul, Nat.add_mul, Nat.one_mul]
    omega
  · have hlt := Nat.mod_lt ((rest.getLastD first).length + prompt.length) hw0
    rw [blockRows, Nat.add_mul, Nat.one_mul] at hd
    rw [Nat.add_mul]
    omega

/-- Both statements of C04 are cases of this (one line: `rest = []`); `primaryPrinted = false` only (see `frameToks`). -/
theorem refresh_lines (w : Nat) (prompt sec first : List Nat) (rest : List (List Nat)) (k o prevRow r0 : Nat)
    (t : Term) (hw : t.w = w) (hwf : t.WF) (hy : t.y = r0 + prevRow) (hfree : ∀ ln ∈ first :: rest, 10 ∉ ln)
    (hk : k < (first :: rest).length) (ho : o ≤ ((first :: rest).getD k []).length) (hpr : prompt.length < w) :
    let l := joinNL (first :: rest)
    let pos := ((((first :: rest).take k).map List.length).map (· + 1)).sum + o
    let t' := t.run (refresh w prompt sec prevRow false l pos)
    (∀ r c, c < w → t'.cell r c =
        if r * w + c < r0 * w then t.cell r c else frame w prompt sec first rest (r * w + c - r0 * w)) ∧
    At t' w (coordsCursor w l pos prompt.length).1 (r0 + (coordsCursor w l pos prompt.length).2) := by
  dsimp only
  have hw0 : 0 < w := by omega
  rw [refresh_eq w prompt sec first rest _ prevRow hfree,
    coordsCursor_lines w prompt.length (first :: rest) k o hfree hk ho]
  obtain ⟨a, hc⟩ := frame_run w prompt sec first rest prevRow r0 _ _ t hw hwf hy hpr
    (cursorRow_lt w prompt.length o (first :: rest) k hk ho) (Nat.mod_lt (o + prompt.length) hw0)
  refine ⟨fun r c hcw => ?_, a⟩
  rw [cell_lin a.w r hcw, cell_lin hw r hcw]
  exact hc _

end RLV.Term
