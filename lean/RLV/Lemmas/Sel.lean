import RLV.Model.Sel
import RLV.Lemmas.Cursor
/-! `Selection.Pos` (internal/core/selection.go), for ANY values of the selection's internal fields and of the cursor:
it returns (no panic) either "no selection" `(-1, -1)` or a range inside the buffer, `0 ≤ bpos ≤ epos ≤ len`.
`Selection.Cut` (the delete operators, the kill commands) and `Selection.Pop` (the yank operators) by what `Pos`
returns: from the same state they take the same text. -/
namespace RLV.Sel
open RLV.Core

theorem checkRange_eq (l : Line) (b e : Int) :
    checkRange l b e =
      if len l = 0 ∨ (b < 0 ∧ e < 0) ∨ (b > len l ∧ e > len l) then (-1, -1, false)
      else if b < 0 ∨ e < 0 then (min (max b e) (len l), -1, true)
      else (min (min b e) (len l), min (max b e) (len l), true) := by
  have hlen := len_nonneg l
  fun_cases checkRange l b e with
  | case1 hl => rw [if_pos (Or.inl hl)]
  | case2 _ hn => rw [if_pos (Or.inr (Or.inl hn))]
  | case3 _ _ hg => rw [if_pos (Or.inr (Or.inr hg))]
  | case4 | case5 =>
    -- one end pending: the other one, clamped from above
    rw [if_neg (by omega), if_pos (by omega)]
    simp only [Prod.mk.injEq, and_true]
    omega
  | case6 | case7 =>
    -- two ends, out of order or in order
    rw [if_neg (by omega), if_neg (by omega)]
    simp only [Prod.mk.injEq, and_true]
    omega

theorem checkRange_ordered (l : Line) (b e : Int) (hl : len l ≠ 0) (hb : 0 ≤ b) (hbe : b ≤ e)
    (hb1 : b ≤ len l) :
    checkRange l b e = (b, min e (len l), true) := by
  rw [checkRange_eq, if_neg (by omega), if_neg (by omega)]
  simp only [Prod.mk.injEq, and_true]
  omega

/-- the pairs `checkRange` returns, which are also those it accepts unchanged; an end of `-1` is pending (the cursor
will complete it) -/
structure Checked (l : Line) (b e : Int) : Prop where
  ne : len l ≠ 0
  lo : 0 ≤ b
  hi : b ≤ len l
  end_ : e = -1 ∨ (b ≤ e ∧ e ≤ len l)

theorem checkRange_fix (l : Line) (b e : Int) (h : Checked l b e) : checkRange l b e = (b, e, true) := by
  obtain ⟨hl, h0, h1, h2⟩ := h
  rw [checkRange_eq, if_neg (by omega)]
  split <;> (simp only [Prod.mk.injEq, and_true]; omega)

theorem checkRange_spec (l : Line) (b e : Int) :
    checkRange l b e = (-1, -1, false) ∨ ∃ x y, checkRange l b e = (x, y, true) ∧ Checked l x y := by
  have hn := len_nonneg l
  rw [checkRange_eq]
  split
  · exact Or.inl rfl
  · right
    split
    · exact ⟨_, _, rfl, ⟨by omega, by omega, by omega, Or.inl rfl⟩⟩
    · exact ⟨_, _, rfl, ⟨by omega, by omega, by omega, Or.inr ⟨by omega, by omega⟩⟩⟩

theorem scanBack_spec (l : Line) (f : Nat) (b : Int) (hm : -1 ≤ b) (hb : b < len l) :
    ∃ r, scanBack l f b = .ok r ∧ -1 ≤ r ∧ r ≤ b + 1 := by
  fun_induction scanBack l f b with
  | case1 b => exact ⟨b, rfl, by omega, by omega⟩
  | case2 f b h0 ih =>
    obtain ⟨r, h1, h2, h3⟩ := ih (by omega) (by omega)
    rw [at_ok l b h0 hb]
    by_cases hc : charOf l b = 10
    · exact ⟨b + 1, if_pos hc, by omega, by omega⟩
    · exact ⟨r, (if_neg hc).trans h1, h2, by omega⟩
  | case3 f b hneg => exact ⟨b, rfl, by omega, by omega⟩

theorem scanFwd_spec (l : Line) (f : Nat) (e : Int) (he : 0 ≤ e) : ∃ r, scanFwd l f e = .ok r ∧ e ≤ r := by
  fun_induction scanFwd l f e with
  | case1 e => exact ⟨e, rfl, by omega⟩
  | case2 f e h1 e' ih =>
    have he' : e' = e := if_neg (by omega)
    rw [he'] at ih ⊢
    obtain ⟨r, h2, h3⟩ := ih (by omega)
    rw [at_ok l e he h1]
    by_cases hc : charOf l e = 10
    · exact ⟨e, if_pos hc, by omega⟩
    · exact ⟨r, (if_neg hc).trans h2, by omega⟩
  | case3 f e hend => exact ⟨e, rfl, by omega⟩

theorem selectToCursor_spec (l : Line) (s : S) (cpos b : Int) (hc0 : 0 ≤ cpos) (hc1 : cpos ≤ len l)
    (hb0 : 0 ≤ b) (hb1 : b ≤ len l) :
    ∃ r, selectToCursor l s cpos b = .ok r ∧ 0 ≤ r.1 ∧ r.1 ≤ r.2 ∧ r.1 ≤ len l := by
  obtain ⟨b', e', hbe, hb0', hb1', he0'⟩ : ∃ b' e', (if cpos < b then (cpos, b) else (b, cpos)) = (b', e') ∧
      0 ≤ b' ∧ b' ≤ len l ∧ 0 ≤ e' := by
    split
    · exact ⟨_, _, rfl, hc0, hc1, hb0⟩
    · exact ⟨_, _, rfl, hb0, hb1, hc0⟩
  unfold selectToCursor
  rw [hbe]
  refine bind_spec (fun r => 0 ≤ r.1 ∧ r.1 ≤ len l ∧ 0 ≤ r.2) ?_ fun ⟨x, y⟩ ⟨hx, hxl, hy⟩ => ?_
  · by_cases hvl : s.visualLine = true
    · rw [if_pos hvl]
      refine bind_spec _ (scanBack_spec l _ (b' - 1) (by omega) (by omega)) fun r1 ⟨_, _⟩ => ?_
      refine bind_spec _ (scanFwd_spec l _ e' he0') fun r2 _ => ?_
      refine ⟨_, rfl, ?_, ?_, ?_⟩ <;> (dsimp only; omega)
    · rw [if_neg hvl]
      exact ⟨_, rfl, hb0', hb1', he0'⟩
  · dsimp only at hx hxl hy ⊢
    by_cases hgt : x > y
    · rw [if_pos hgt]
      refine ⟨_, rfl, hy, ?_, ?_⟩ <;> (dsimp only; omega)
    · rw [if_neg hgt]
      refine ⟨_, rfl, hx, ?_, hxl⟩
      dsimp only
      omega

theorem selectToCursor_le (l : Line) (s : S) (q p : Int) (hvl : s.visualLine = false) (hq : q ≤ p) :
    selectToCursor l s q p = .ok (q, p) := by
  unfold selectToCursor
  have hsel : (if q < p then (q, p) else (p, q)) = (q, p) := by
    split
    · rfl
    · have hqp : q = p := by omega
      rw [hqp]
  have hord : ¬ q > p := by omega
  simp only [hvl, hsel, hord, Bool.false_eq_true, if_false, ok_bind, pure_eq]

theorem posFrom_range (l : Line) (s : S) (cur : Cur) (b e : Int) (hl : len l ≠ 0)
    (hb : 0 ≤ b) (hbe : b ≤ e) (hb1 : b ≤ len l) :
    posFrom l s cur b e = .ok (b, min (if s.visual = true then e + 1 else e) (len l)) := by
  unfold posFrom
  have he1 : ¬ e = -1 := by omega
  have hv : b ≤ (if s.visual = true then e + 1 else e) := by omega
  simp only [ok_bind, pure_eq, he1, if_false, checkRange_ordered l b _ hl hb hv hb1,
    Bool.not_true, Bool.false_eq_true]

theorem posFrom_pending {l : Line} {s : S} {cur : Cur} {p b e : Int}
    (h : selectToCursor l s (checkAppend l cur).pos p = .ok (b, e)) (he : e ≠ -1) :
    posFrom l s cur p (-1) = posFrom l s cur b e := by
  unfold posFrom
  simp only [h, he, if_true, if_false, ok_bind, pure_eq]

theorem posFrom_spec (l : Line) (s : S) (cur : Cur) (b1 e1 : Int) (h : Checked l b1 e1) :
    ∃ b e, posFrom l s cur b1 e1 = .ok (b, e) ∧ 0 ≤ b ∧ b ≤ e ∧ e ≤ len l := by
  obtain ⟨hl, hb0, hb1, he⟩ := h
  rcases he with rfl | ⟨h1, h2⟩
  · obtain ⟨hc0, hc1, _⟩ := checkAppend_range l cur
    obtain ⟨⟨x, y⟩, h, hx, hxy, hxl⟩ := selectToCursor_spec l s _ b1 hc0 hc1 hb0 hb1
    have hp := (posFrom_pending h (by omega)).trans (posFrom_range l s cur x y hl hx hxy hxl)
    exact ⟨x, _, hp, hx, by omega, by omega⟩
  · exact ⟨b1, _, posFrom_range l s cur b1 e1 hl hb0 h1 hb1, hb0, by omega, by omega⟩

theorem pos_none (l : Line) (s : S) (cur : Cur)
    (h : len l = 0 ∨ s.active = false ∨ checkRange l s.bpos s.epos = (-1, -1, false)) :
    pos l s cur = .ok (-1, -1, s) := by
  unfold pos
  rcases h with h | h | h
  · rw [if_pos (Or.inl h)]
  · rw [if_pos (Or.inr ((Bool.not_eq_true' _).mpr h))]
  · simp only [h, Bool.not_false, if_true, ite_self]

theorem pos_checked (l : Line) (s : S) (cur : Cur) (b1 e1 : Int) (hl : len l ≠ 0) (ha : s.active = true)
    (hcr : checkRange l s.bpos s.epos = (b1, e1, true)) :
    pos l s cur = posFrom l { s with bpos := b1, epos := e1 } cur b1 e1 >>=
      fun r => pure (r.1, r.2, { s with bpos := b1, epos := e1 }) := by
  unfold pos
  have hgo : ¬ (len l = 0 ∨ (!s.active) = true) := by
    rw [ha]
    exact fun h => h.elim hl nofun
  rw [if_neg hgo]
  simp only [hcr, Bool.not_true, Bool.false_eq_true, if_false]
  cases posFrom l { s with bpos := b1, epos := e1 } cur b1 e1 <;> rfl

/-- either `pos_none` applies or `pos_checked` does -/
theorem pos_cases (l : Line) (s : S) :
    (len l = 0 ∨ s.active = false ∨ checkRange l s.bpos s.epos = (-1, -1, false)) ∨
    ∃ b1 e1, s.active = true ∧ checkRange l s.bpos s.epos = (b1, e1, true) ∧ Checked l b1 e1 := by
  rcases checkRange_spec l s.bpos s.epos with h | ⟨x, y, h, hc⟩
  · exact Or.inl (Or.inr (Or.inr h))
  · cases ha : s.active with
    | false => exact Or.inl (Or.inr (Or.inl rfl))
    | true => exact Or.inr ⟨x, y, rfl, h, hc⟩

/-- what `Selection.Pos` returns. As `(-1).toNat = 0`, the text `slice l b e` and the rest
`l.take b.toNat ++ l.drop e.toNat` are `[]` and `l` for "no selection" `(-1, -1)`, which is what `Text`, `Cut` and
`Pop` return for it: each of them is one equation in `b` and `e`. -/
def Range (l : Line) (b e : Int) : Prop := (b = -1 ∧ e = -1) ∨ (0 ≤ b ∧ b ≤ e ∧ e ≤ len l)

theorem Range.le {l : Line} {b e : Int} (h : Range l b e) : b ≤ e ∧ e ≤ len l := by
  have hn := len_nonneg l
  unfold Range at h
  omega

/-- what `Pos()` returned; `s1` is `s` with the checked range stored. `again`: `Cut` calls `Pos()` and then `Text`,
which calls it again on the selection the first call has updated; it sees the same range. -/
structure Denotes (l : Line) (s : S) (cur : Cur) (b e : Int) (s1 : S) : Prop where
  pos : pos l s cur = .ok (b, e, s1)
  again : Sel.pos l s1 cur = .ok (b, e, s1)
  range : Range l b e

theorem Denotes.stable {l : Line} {s : S} {cur : Cur} {b e : Int} {s1 : S} (h : Denotes l s cur b e s1) :
    Denotes l s1 cur b e s1 :=
  ⟨h.again, h.again, h.range⟩

theorem Denotes.of_checked {l : Line} {s : S} {cur : Cur} {b e : Int} (ha : s.active = true)
    (h : Checked l s.bpos s.epos) (hp : posFrom l s cur s.bpos s.epos = .ok (b, e))
    (hr : 0 ≤ b ∧ b ≤ e ∧ e ≤ len l) : Denotes l s cur b e s := by
  have hpos : Sel.pos l s cur = .ok (b, e, s) := by
    rw [pos_checked l s cur _ _ h.ne ha (checkRange_fix l _ _ h), hp]
    rfl
  exact ⟨hpos, hpos, Or.inr hr⟩

theorem denotes (l : Line) (s : S) (cur : Cur) : ∃ b e s1, Denotes l s cur b e s1 := by
  rcases pos_cases l s with hn | ⟨x, y, ha, h, hc⟩
  · exact ⟨_, _, _, pos_none l s cur hn, pos_none l s cur hn, Or.inl ⟨rfl, rfl⟩⟩
  · obtain ⟨b, e, hr, hrr⟩ := posFrom_spec l { s with bpos := x, epos := y } cur x y hc
    have hd : Denotes l { s with bpos := x, epos := y } cur b e _ := .of_checked ha hc hr hrr
    refine ⟨b, e, _, ?_, hd.pos, hd.range⟩
    rw [pos_checked l s cur x y hc.ne ha h, hr]
    rfl

theorem markRange_checked (l : Line) (s : S) (b e : Int) (h : Checked l b e) :
    markRange l s b e = { s with active := true, bpos := b, epos := e } := by
  unfold markRange
  rw [checkRange_fix l b e h]
  rfl

/-- `MarkRange` (called by the kill commands) does not touch the `visual` flag: `s` may still carry it from an
earlier visual selection, hence the `+ 1`. -/
theorem denotes_markRange (l : Line) (s : S) (cur : Cur) (b e : Int) (hl : len l ≠ 0)
    (hb : 0 ≤ b) (hbe : b ≤ e) (he : e ≤ len l) :
    Denotes l (markRange l s b e) cur b (min (if s.visual = true then e + 1 else e) (len l))
      { s with active := true, bpos := b, epos := e } := by
  have hc : Checked l b e := ⟨hl, hb, by omega, Or.inr ⟨hbe, he⟩⟩
  rw [markRange_checked l s b e hc]
  exact .of_checked rfl hc (posFrom_range l _ cur b e hl hb hbe hc.hi) ⟨hb, by omega, by omega⟩

theorem denotes_mark (l : Line) (s : S) (cur : Cur) (p : Int) (hl : len l ≠ 0) (hvl : s.visualLine = false)
    (hq : (checkAppend l cur).pos ≤ p) (hp : p ≤ len l) :
    Denotes l (mark l s p) cur (checkAppend l cur).pos (min (if s.visual = true then p + 1 else p) (len l))
      { s with active := true, bpos := p, epos := -1 } := by
  obtain ⟨hq0, _, _⟩ := checkAppend_range l cur
  have hc : Checked l p (-1) := ⟨hl, by omega, hp, Or.inl rfl⟩
  have hsel := selectToCursor_le l { s with active := true, bpos := p, epos := -1 } _ p hvl hq
  unfold mark
  rw [if_neg (by omega), markRange_checked l s p (-1) hc]
  exact .of_checked rfl hc
    ((posFrom_pending hsel (by omega)).trans (posFrom_range l _ cur _ p hl hq0 hq (by omega)))
    ⟨hq0, by omega, by omega⟩

theorem cut_empty (l : Line) (s : S) (cur : Cur) (hl : len l = 0) : cut l s cur = .ok ([], l, s) := by
  simp only [cut, hl, if_true, pure_eq]

section
variable {l : Line} {s : S} {cur : Cur} {b e : Int} {s1 : S} (h : Denotes l s cur b e s1)
include h

/-- the three situations `Text`, `Cut` and `Pop` test for, in their order -/
theorem Denotes.cases :
    (len l = 0 ∧ b = -1 ∧ e = -1 ∧ s1 = s) ∨ (len l ≠ 0 ∧ Range l b e) := by
  by_cases hl : len l = 0
  · cases (pos_none l s cur (Or.inl hl)).symm.trans h.pos
    exact Or.inl ⟨hl, rfl, rfl, rfl⟩
  · exact Or.inr ⟨hl, h.range⟩

theorem Denotes.text : text l s cur = .ok (slice l b e, s1) := by
  rcases h.cases with ⟨hl, rfl, rfl, rfl⟩ | ⟨hl, ⟨rfl, rfl⟩ | ⟨h0, h1, h2⟩⟩
  · simp only [Sel.text, hl, if_true, pure_eq]
    rfl
  · simp only [Sel.text, hl, if_false, h.pos, or_self, if_true, ok_bind, pure_eq]
    rfl
  · have hne : ¬ (b = -1 ∨ e = -1) := by omega
    have hin : ¬ (b < 0 ∨ e > len l ∨ b > e) := by omega
    simp only [Sel.text, hl, if_false, h.pos, hne, hin, slice_eq l b e h0 h1, ok_bind, pure_eq]

theorem Denotes.cut :
    cut l s cur = .ok (slice l b e, l.take b.toNat ++ l.drop e.toNat, if len l = 0 then s else reset s1) := by
  rcases h.cases with ⟨hl, rfl, rfl, rfl⟩ | ⟨hl, ⟨rfl, rfl⟩ | ⟨h0, h1, h2⟩⟩
  · rw [cut_empty l _ cur hl, if_pos hl]
    rfl
  · simp only [Sel.cut, hl, if_false, h.pos, or_self, if_true, ok_bind, pure_eq]
    rfl
  · have hne : ¬ (b = -1 ∨ e = -1) := by omega
    simp only [Sel.cut, hl, if_false, h.pos, hne, h.stable.text, Core.cut_spec l b e h0 h1 h2, ok_bind, pure_eq]

theorem Denotes.pop : pop l s cur = .ok (slice l b e, b, e) := by
  rcases h.cases with ⟨hl, rfl, rfl, rfl⟩ | ⟨hl, ⟨rfl, rfl⟩ | ⟨h0, h1, h2⟩⟩
  · simp only [Sel.pop, hl, if_true, pure_eq]
    rfl
  · simp only [Sel.pop, hl, if_false, h.pos, or_self, if_true, ok_bind, pure_eq]
    rfl
  · have hne : ¬ (b = -1 ∨ e = -1) := by omega
    have hin : ¬ (b < 0 ∨ e > len l ∨ b > e) := by omega
    simp only [Sel.pop, hl, if_false, h.pos, hne, hin, slice_eq l b e h0 h1, ok_bind, pure_eq]

end

theorem cut_eq_pop (l : Line) (s : S) (cur : Cur) :
    ∃ b e s', Range l b e ∧ cut l s cur = .ok (slice l b e, l.take b.toNat ++ l.drop e.toNat, s') ∧
      pop l s cur = .ok (slice l b e, b, e) :=
  have ⟨b, e, _, h⟩ := denotes l s cur
  ⟨b, e, _, h.range, h.cut, h.pop⟩

end RLV.Sel
