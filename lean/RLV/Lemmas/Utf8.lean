import RLV.Model.Keys
/-! Go's `unicode/utf8` as modelled in Model/Utf8.lean: encoding then decoding a valid rune gives it back; the
well-formed multi-byte forms (Unicode Table 3-7, stated once: `needBytes`, `fits`), and `utf8.FullRune` (`fullRune`,
Model/Keys.lean) on them and on their proper prefixes.
Both directions work six bits at a time: the encoder's shifts are iterated divisions by 64, the decoder's shifts and
ors a Horner scheme in base 64 (`pack6`, `shl_or`). In that form the arithmetic left to `omega` has no large divisor. -/
namespace RLV

theorem and3F (x : Nat) : x &&& 0x3F = x % 64 := Nat.and_two_pow_sub_one_eq_mod x 6
theorem shr6 (x : Nat) : x >>> 6 = x / 64 := Nat.shiftRight_eq_div_pow x 6
theorem shr12 (x : Nat) : x >>> 12 = x / 64 / 64 := by
  rw [← shr6, ← shr6, ← Nat.shiftRight_add]
theorem shr18 (x : Nat) : x >>> 18 = x / 64 / 64 / 64 := by
  rw [← shr6, ← shr6, ← shr6, ← Nat.shiftRight_add, ← Nat.shiftRight_add]

theorem or_eq_add (x y k : Nat) (hx : x % 2 ^ k = 0) (hy : y < 2 ^ k) : x ||| y = x + y := by
  have hd := Nat.div_add_mod' x (2 ^ k)
  rw [hx, Nat.add_zero] at hd
  rw [← hd, ← Nat.shiftLeft_eq, Nat.shiftLeft_add_eq_or_of_lt hy]

theorem cont_byte (x : Nat) : 0x80 ||| (x &&& 0x3F) = 0x80 + x % 64 := by
  rw [and3F, or_eq_add 0x80 _ 6 rfl (by omega)]

theorem pack6 (a b : Nat) : a <<< 6 ||| (b &&& 0x3F) = a * 64 + b % 64 := by
  rw [and3F, ← Nat.shiftLeft_add_eq_or_of_lt (Nat.mod_lt b (by decide)), Nat.shiftLeft_eq]

theorem shl_or (a b j k : Nat) : a <<< (j + k) ||| b <<< k = (a <<< j ||| b) <<< k := by
  rw [Nat.shiftLeft_or_distrib, ← Nat.shiftLeft_add]

theorem encodeRune_ascii (r : Nat) (h : r < 0x80) : encodeRune r = [r] := by
  unfold encodeRune
  have c1 : ¬ (r > 0x10FFFF ∨ (0xD800 ≤ r ∧ r ≤ 0xDFFF)) := by omega
  simp only [c1, h, if_false, if_true]

theorem utf8_cons (r : Nat) (rs : List Nat) : utf8 (r :: rs) = encodeRune r ++ utf8 rs := List.flatMap_cons

theorem utf8_ascii : ∀ {rs : List Nat}, (∀ r ∈ rs, r < 0x80) → utf8 rs = rs
  | [], _ => rfl
  | r :: rs, h => by
    rw [utf8_cons, encodeRune_ascii r (h r List.mem_cons_self), utf8_ascii fun x hx => h x (List.mem_cons_of_mem _ hx)]
    rfl

/-- a rune that has a UTF-8 encoding of its own (Go: `utf8.ValidRune`) -/
def ValidRune (r : Nat) : Prop := r ≤ 0x10FFFF ∧ ¬ (0xD800 ≤ r ∧ r ≤ 0xDFFF)

theorem encodeRune_high (r : Nat) (hv : ValidRune r) (h80 : 0x80 ≤ r) : encodeRune r =
    if r < 0x800 then [0xC0 + r / 64, 0x80 + r % 64]
    else if r < 0x10000 then [0xE0 + r / 64 / 64, 0x80 + r / 64 % 64, 0x80 + r % 64]
    else [0xF0 + r / 64 / 64 / 64, 0x80 + r / 64 / 64 % 64, 0x80 + r / 64 % 64, 0x80 + r % 64] := by
  unfold encodeRune
  have c1 : ¬ (r > 0x10FFFF ∨ (0xD800 ≤ r ∧ r ≤ 0xDFFF)) := fun h => h.elim (Nat.not_lt.mpr hv.1) hv.2
  have c2 : ¬ r < 0x80 := Nat.not_lt.mpr h80
  simp only [c1, c2, if_false, shr6, shr12, shr18, cont_byte]
  split
  next h800 => rw [or_eq_add 0xC0 _ 5 rfl (by omega)]
  next h800 =>
    split
    next h10000 => rw [or_eq_add 0xE0 _ 4 rfl (by omega)]
    next h10000 => rw [or_eq_add 0xF0 _ 3 rfl (by omega)]

theorem encodeRune_ne_nil (r : Nat) : encodeRune r ≠ [] := by
  fun_cases encodeRune r <;> exact List.cons_ne_nil _ _

theorem cont_iff (b : Nat) : cont b = true ↔ (0x80 ≤ b ∧ b ≤ 0xBF) := by
  simp only [cont, Bool.and_eq_true, decide_eq_true_eq]

/-- what the lead byte `b0` announces: the number of bytes of the form, and the range of the second byte (Unicode
Table 3-7; Go's tables `first` and `acceptRanges`) -/
def needBytes (b0 : Nat) : Nat := if b0 < 0xE0 then 2 else if b0 < 0xF0 then 3 else 4
def loSecond (b0 : Nat) : Nat := if b0 = 0xE0 then 0xA0 else if b0 = 0xF0 then 0x90 else 0x80
def hiSecond (b0 : Nat) : Nat := if b0 = 0xED then 0x9F else if b0 = 0xF4 then 0x8F else 0xBF

theorem needBytes_cases (b0 : Nat) :
    b0 < 0xE0 ∧ needBytes b0 = 2 ∨ 0xE0 ≤ b0 ∧ b0 < 0xF0 ∧ needBytes b0 = 3 ∨ 0xF0 ≤ b0 ∧ needBytes b0 = 4 := by
  fun_cases needBytes b0 <;> omega

theorem loSecond_cases (b0 : Nat) :
    b0 = 0xE0 ∧ loSecond b0 = 0xA0 ∨ b0 = 0xF0 ∧ loSecond b0 = 0x90 ∨ b0 ≠ 0xE0 ∧ b0 ≠ 0xF0 ∧ loSecond b0 = 0x80 := by
  fun_cases loSecond b0 <;> omega

theorem hiSecond_cases (b0 : Nat) :
    b0 = 0xED ∧ hiSecond b0 = 0x9F ∨ b0 = 0xF4 ∧ hiSecond b0 = 0x8F ∨ b0 ≠ 0xED ∧ b0 ≠ 0xF4 ∧ hiSecond b0 = 0xBF := by
  fun_cases hiSecond b0 <;> omega

/-- the bytes after the lead byte `b0` are, as far as they go, in the ranges of Table 3-7 -/
def fits (b0 : Nat) : List Nat → Bool
  | [] => true
  | b1 :: t => !decide (b1 < loSecond b0 ∨ hiSecond b0 < b1) && t.all cont

theorem fits_cons {b0 b1 : Nat} {t : List Nat} :
    fits b0 (b1 :: t) = true ↔ loSecond b0 ≤ b1 ∧ b1 ≤ hiSecond b0 ∧ ∀ c ∈ t, cont c = true := by
  simp only [fits, Bool.and_eq_true, Bool.not_eq_eq_eq_not, Bool.not_true, decide_eq_false_iff_not, not_or, Nat.not_lt,
    List.all_eq_true, and_assoc]

theorem fits_prefix {b0 : Nat} {p l : List Nat} (hp : p <+: l) (h : fits b0 l = true) : fits b0 p = true := by
  obtain ⟨q, rfl⟩ := hp
  cases p with
  | nil => rfl
  | cons b1 p =>
    rw [List.cons_append, fits_cons] at h
    exact fits_cons.mpr ⟨h.1, h.2.1, fun c hc => h.2.2 c (List.mem_append_left _ hc)⟩

theorem fullRune_lead {b0 : Nat} (h0 : 0xC2 ≤ b0) (h1 : b0 ≤ 0xF4) (t : List Nat) :
    fullRune (b0 :: t) = (decide (needBytes b0 ≤ t.length + 1) || !fits b0 (t.take 2)) := by
  have hneed : (if b0 < 0x80 then 0 else if b0 < 0xC2 then 1 else if b0 < 0xE0 then 2
      else if b0 < 0xF0 then 3 else if b0 < 0xF5 then 4 else 1) = needBytes b0 := by
    rw [if_neg (by omega), if_neg (by omega)]
    fun_cases needBytes b0 with
    | case1 hE0 => rw [if_pos hE0]
    | case2 hE0 hF0 => rw [if_neg hE0, if_pos hF0]
    | case3 hE0 hF0 => rw [if_neg hE0, if_neg hF0, if_pos (by omega)]
  unfold fullRune
  -- `fullRune` looks at the second and third byte only
  rcases t with _ | ⟨b1, _ | ⟨b2, t⟩⟩ <;>
    simp only [hneed, List.length_cons, ge_iff_le, Bool.if_true_left, fits, loSecond, hiSecond, List.take_succ_cons,
      List.take_zero, List.take_nil, List.all_cons, List.all_nil, Bool.and_true, Bool.not_and, Bool.not_not,
      Bool.or_false, Bool.not_true] <;>
    rfl

/-- the well-formed multi-byte UTF-8 forms -/
inductive WFEnc : List Nat → Prop
  | mk (b0 : Nat) (t : List Nat) (h0 : 0xC2 ≤ b0) (h1 : b0 ≤ 0xF4) (hn : t.length + 1 = needBytes b0)
      (hf : fits b0 t = true) : WFEnc (b0 :: t)

/-- `WFEnc.mk` with the table written out as arithmetic on `b0`, one `omega` goal at each use; `n` is `t.length` as a
numeral -/
theorem WFEnc.of {b0 b1 : Nat} {t : List Nat} (n : Nat) (hn : t.length = n)
    (h : (0xC2 ≤ b0 ∧ b0 ≤ 0xF4) ∧ (b0 < 0xE0 ∧ n = 0 ∨ 0xE0 ≤ b0 ∧ b0 < 0xF0 ∧ n = 1 ∨ 0xF0 ≤ b0 ∧ n = 2) ∧
      ((b0 ≠ 0xE0 ∨ 0xA0 ≤ b1) ∧ (b0 ≠ 0xF0 ∨ 0x90 ≤ b1) ∧ 0x80 ≤ b1) ∧
      ((b0 ≠ 0xED ∨ b1 ≤ 0x9F) ∧ (b0 ≠ 0xF4 ∨ b1 ≤ 0x8F) ∧ b1 ≤ 0xBF)) (ht : ∀ c ∈ t, cont c = true) :
    WFEnc (b0 :: b1 :: t) := by
  obtain ⟨⟨h0, h1⟩, hrow, hlo, hhi⟩ := h
  -- each with its own part of the table only: `omega` splits on every disjunction in sight
  have hn' : (b1 :: t).length + 1 = needBytes b0 := by
    have hN := needBytes_cases b0
    clear hlo hhi
    rw [List.length_cons]
    omega
  have h2 : loSecond b0 ≤ b1 := by
    have hL := loSecond_cases b0
    clear hrow hhi
    omega
  have h3 : b1 ≤ hiSecond b0 := by
    have hH := hiSecond_cases b0
    clear hrow hlo
    omega
  exact .mk b0 (b1 :: t) h0 h1 hn' (fits_cons.mpr ⟨h2, h3, ht⟩)

/-- the rune: the payload bits of the lead byte (5, 4, 3 of them in a form of 2, 3, 4 bytes), then six bits of every
further byte -/
theorem decodeRune_lead {b0 : Nat} (h0 : 0xC2 ≤ b0) (h1 : b0 ≤ 0xF4) (t : List Nat) :
    decodeRune (b0 :: t) =
      if needBytes b0 ≤ t.length + 1 ∧ fits b0 (t.take (needBytes b0 - 1)) = true then
        ((t.take (needBytes b0 - 1)).foldl (fun a b => a * 64 + b % 64) (b0 % 2 ^ (7 - needBytes b0)), needBytes b0)
      else (0xFFFD, 1) := by
  have c1 : ¬ b0 < 0x80 := by omega
  have c2 : ¬ b0 < 0xC2 := by omega
  unfold decodeRune
  -- in each of the three branches of `decodeRune`: its bounds for the second byte are those of the table; then `t` is
  -- too short (an error on both sides), or long enough (the same test on both sides, the shifts are Horner's rule)
  rcases needBytes_cases b0 with ⟨hb, hn⟩ | ⟨hb, hb', hn⟩ | ⟨hb, hn⟩
  · have hlo : loSecond b0 = 0x80 := by
      have hL := loSecond_cases b0
      omega
    have hhi : hiSecond b0 = 0xBF := by
      have hH := hiSecond_cases b0
      omega
    rcases t with _ | ⟨b1, t⟩ <;>
      simp only [c1, c2, hb, hn, hlo, hhi, ↓reduceIte, cont_iff, fits_cons, Nat.and_two_pow_sub_one_eq_mod b0 5, pack6,
        List.length, List.take, List.foldl, List.not_mem_nil, Nat.zero_add, Nat.le_add_left, Nat.add_one_sub_one,
        Nat.reduceLeDiff, Nat.reduceSub, Nat.reducePow, false_implies, implies_true, and_true, true_and, false_and]
  · have hb : ¬ b0 < 0xE0 := Nat.not_lt.mpr hb
    have hlo : (if b0 = 0xE0 then 0xA0 else 0x80) = loSecond b0 := by
      rw [loSecond, if_neg (show b0 ≠ 0xF0 by omega)]
    have hhi : (if b0 = 0xED then 0x9F else 0xBF) = hiSecond b0 := by
      rw [hiSecond, if_neg (show b0 ≠ 0xF4 by omega)]
    rcases t with _ | ⟨b1, _ | ⟨b2, t⟩⟩ <;>
      simp only [c1, c2, hb, hb', hn, hlo, hhi, ↓reduceIte, fits_cons, Nat.and_two_pow_sub_one_eq_mod b0 4,
        shl_or _ _ 6 6, pack6, List.length, List.take, List.foldl, List.mem_cons, List.not_mem_nil, Nat.zero_add,
        Nat.le_add_left, Nat.add_one_sub_one, Nat.reduceAdd, Nat.reduceLeDiff, Nat.reduceSub, Nat.reducePow, or_false,
        forall_eq, true_and, false_and]
  · have hb : ¬ b0 < 0xE0 ∧ ¬ b0 < 0xF0 ∧ b0 < 0xF5 := by omega
    have hlo : (if b0 = 0xF0 then 0x90 else 0x80) = loSecond b0 := by
      rw [loSecond, if_neg (show b0 ≠ 0xE0 by omega)]
    have hhi : (if b0 = 0xF4 then 0x8F else 0xBF) = hiSecond b0 := by
      rw [hiSecond, if_neg (show b0 ≠ 0xED by omega)]
    rcases t with _ | ⟨b1, _ | ⟨b2, _ | ⟨b3, t⟩⟩⟩ <;>
      simp only [c1, c2, hb, hn, hlo, hhi, ↓reduceIte, fits_cons, Nat.and_two_pow_sub_one_eq_mod b0 3, shl_or _ _ 6 12,
        shl_or _ _ 6 6, pack6, List.length, List.take, List.foldl, List.mem_cons, List.not_mem_nil, Nat.zero_add,
        Nat.le_add_left, Nat.add_one_sub_one, Nat.reduceAdd, Nat.reduceLeDiff, Nat.reduceSub, Nat.reducePow, or_false,
        forall_eq_or_imp, forall_eq, true_and, false_and]

theorem decodeRune_wf {b0 : Nat} {t : List Nat} (h : WFEnc (b0 :: t)) (rest : List Nat) :
    decodeRune (b0 :: t ++ rest) = (t.foldl (fun a b => a * 64 + b % 64) (b0 % 2 ^ (6 - t.length)), t.length + 1) := by
  obtain ⟨_, _, h0, h1, hn, hf⟩ := h
  have hlen : t.length + 1 ≤ (t ++ rest).length + 1 := by
    rw [List.length_append]
    omega
  rw [List.cons_append, decodeRune_lead h0 h1, ← hn, Nat.add_sub_cancel, List.take_left' rfl, if_pos ⟨hlen, hf⟩,
    Nat.add_sub_add_right 6 1]

theorem decodeRune_short {b0 : Nat} {t : List Nat} (h0 : 0xC2 ≤ b0) (h1 : b0 ≤ 0xF4) (h : t.length + 1 < needBytes b0) :
    decodeRune (b0 :: t) = (0xFFFD, 1) := by
  rw [decodeRune_lead h0 h1, if_neg fun h' => Nat.not_le.mpr h h'.1]

theorem cont_mod (x : Nat) : (0x80 + x % 64) % 64 = x % 64 := by omega

theorem lead_mod (tag x k : Nat) (ht : tag % 2 ^ k = 0) (hx : x < 2 ^ k) : (tag + x) % 2 ^ k = x := by
  rw [Nat.add_mod, ht, Nat.zero_add, Nat.mod_mod, Nat.mod_eq_of_lt hx]

theorem encodeRune_wf (r : Nat) (hv : ValidRune r) (h80 : 0x80 ≤ r) :
    WFEnc (encodeRune r) ∧ ∀ rest, decodeRune (encodeRune r ++ rest) = (r, (encodeRune r).length) := by
  have hc : ∀ x, cont (0x80 + x % 64) = true := fun x => (cont_iff _).mpr (by omega)
  have dec : ∀ {b0 t}, WFEnc (b0 :: t) → t.foldl (fun a b => a * 64 + b % 64) (b0 % 2 ^ (6 - t.length)) = r →
      WFEnc (b0 :: t) ∧ ∀ rest, decodeRune (b0 :: t ++ rest) = (r, (b0 :: t).length) :=
    fun hw hr => ⟨hw, fun rest => (decodeRune_wf hw rest).trans (Prod.ext hr rfl)⟩
  obtain ⟨hv1, hv2⟩ := hv
  rw [encodeRune_high r ⟨hv1, hv2⟩ h80]
  -- Horner: the payloads come back from under their tags (`lead_mod`, `cont_mod`), and `r / 64 * 64 + r % 64 = r`
  split
  next h800 =>
    have hlead : 2 ≤ r / 64 ∧ r / 64 < 2 ^ 5 := by omega
    refine dec (.of 0 rfl (by omega) nofun) ?_
    simp only [List.foldl_cons, List.foldl_nil, List.length_cons, List.length_nil, cont_mod, lead_mod 0xC0 _ 5 rfl hlead.2,
      Nat.div_add_mod']
  next h800 =>
    split
    next h10000 =>
      have hlead : r / 64 / 64 < 2 ^ 4 := by omega
      -- lead byte E0: no overlong form; ED: no surrogate
      have hE0 : r / 64 / 64 = 0 → 0x20 ≤ r / 64 % 64 := by omega
      have hED : r / 64 / 64 = 0xD → r / 64 % 64 < 0x20 := by omega
      refine dec (.of 1 rfl (by omega) (List.forall_mem_singleton.mpr (hc _))) ?_
      simp only [List.foldl_cons, List.foldl_nil, List.length_cons, List.length_nil, cont_mod,
        lead_mod 0xE0 _ 4 rfl hlead, Nat.div_add_mod']
    next h10000 =>
      have hlead : r / 64 / 64 / 64 < 2 ^ 3 := by omega
      -- lead byte F0: no overlong form; F4: nothing above U+10FFFF
      have hF0 : r / 64 / 64 / 64 = 0 → 0x10 ≤ r / 64 / 64 % 64 := by omega
      have hF4 : r / 64 / 64 / 64 = 4 → r / 64 / 64 % 64 < 0x10 := by omega
      refine dec (.of 2 rfl (by omega) (List.forall_mem_cons.mpr ⟨hc _, List.forall_mem_singleton.mpr (hc _)⟩)) ?_
      simp only [List.foldl_cons, List.foldl_nil, List.length_cons, List.length_nil, cont_mod,
        lead_mod 0xF0 _ 3 rfl hlead, Nat.div_add_mod']

theorem decodeRune_encodeRune (r : Nat) (hv : ValidRune r) (rest : List Nat) :
    decodeRune (encodeRune r ++ rest) = (r, (encodeRune r).length) := by
  by_cases h1 : r < 0x80
  · rw [encodeRune_ascii r h1]
    exact if_pos h1
  · exact (encodeRune_wf r hv (Nat.le_of_not_lt h1)).2 rest

theorem WFEnc.head {E : List Nat} (h : WFEnc E) : ∃ b0 t, E = b0 :: t ∧ 0xC2 ≤ b0 ∧ t.length ≤ 3 := by
  obtain ⟨b0, t, h0, h1, hn, hf⟩ := h
  have hN := needBytes_cases b0
  exact ⟨b0, t, rfl, h0, by omega⟩

theorem WFEnc.full {E : List Nat} (h : WFEnc E) : fullRune E = true := by
  obtain ⟨b0, t, h0, h1, hn, hf⟩ := h
  rw [fullRune_lead h0 h1, Bool.or_eq_true, decide_eq_true_eq]
  exact Or.inl (Nat.le_of_eq hn.symm)

theorem length_lt_of_append {p q E : List Nat} (hpq : p ++ q = E) (hq : q ≠ []) : p.length < E.length := by
  rw [← hpq, List.length_append]
  exact Nat.lt_add_of_pos_right (List.length_pos_iff.mpr hq)

theorem WFEnc.prefix_notfull {E : List Nat} (h : WFEnc E) (p q : List Nat) (hpq : p ++ q = E) (hq : q ≠ []) :
    fullRune p = false := by
  obtain ⟨b0, t, h0, h1, hn, hf⟩ := h
  cases p with
  | nil => rfl
  | cons x p' =>
    obtain ⟨rfl, hp'⟩ := List.cons.inj hpq
    have hlen := length_lt_of_append hp' hq
    have hfit : fits x (p'.take 2) = true := fits_prefix ((List.take_prefix 2 p').trans ⟨q, hp'⟩) hf
    rw [fullRune_lead h0 h1, Bool.or_eq_false_iff, decide_eq_false_iff_not, hfit]
    exact ⟨by omega, rfl⟩

theorem WFEnc.prefix_eq {E E' : List Nat} (h : WFEnc E) (h' : WFEnc E') (hp : E <+: E') : E = E' := by
  obtain ⟨q, hq⟩ := hp
  cases q with
  | nil => rwa [List.append_nil] at hq
  | cons a q' =>
    have hnf := h'.prefix_notfull E (a :: q') hq (List.cons_ne_nil _ _)
    rw [h.full] at hnf
    cases hnf

theorem WFEnc.prefix_head {E p : List Nat} (hE : WFEnc E) (hp : p ≠ []) (h : p <+: E) : 0x80 ≤ p.headD 0 := by
  obtain ⟨b0, t, hEt, hlo, _⟩ := hE.head
  cases p with
  | nil => exact absurd rfl hp
  | cons a p' =>
    rw [hEt] at h
    obtain ⟨rfl, _⟩ := List.cons_prefix_cons.mp h
    show 0x80 ≤ a
    omega

/-- where `E` leaves `F`: after a common part `c`, a proper prefix of `F`, at its element `x` -/
theorem leaves_at : ∀ (E F : List Nat), ¬ E <+: F → ¬ F <+: E →
    ∃ c x E' F', E = c ++ x :: E' ∧ c ++ F' = F ∧ F' ≠ [] ∧ ¬ c ++ [x] <+: F
  | [], _, h, _ => absurd List.nil_prefix h
  | _ :: _, [], _, h => absurd List.nil_prefix h
  | x :: E, y :: F, h1, h2 => by
    by_cases hxy : x = y
    · subst hxy
      obtain ⟨c, a, E', F', rfl, rfl, hF', ha⟩ := leaves_at E F
        (fun h => h1 (List.cons_prefix_cons.mpr ⟨rfl, h⟩)) (fun h => h2 (List.cons_prefix_cons.mpr ⟨rfl, h⟩))
      exact ⟨x :: c, a, E', F', rfl, rfl, hF', fun h => ha (List.cons_prefix_cons.mp h).2⟩
    · exact ⟨[], x, E, y :: F, rfl, rfl, List.cons_ne_nil _ _, fun h => hxy (List.cons_prefix_cons.mp h).1⟩

theorem runesOfBytes_cons (b : Nat) (t : List Nat) : runesOfBytes (b :: t) =
    (decodeRune (b :: t)).1 :: decodeAll t.length ((b :: t).drop (max (decodeRune (b :: t)).2 1)) := rfl

theorem runesOfBytes_single (b : Nat) (h : b < 0x80) : runesOfBytes [b] = [b] := by
  have hd : decodeRune [b] = (b, 1) := if_pos h
  rw [runesOfBytes_cons, hd]
  rfl

theorem runesOfBytes_encodeRune (r : Nat) (hv : ValidRune r) : runesOfBytes (encodeRune r) = [r] := by
  have hd := decodeRune_encodeRune r hv []
  rw [List.append_nil] at hd
  cases hE : encodeRune r with
  | nil => exact absurd hE (encodeRune_ne_nil r)
  | cons b t =>
    rw [runesOfBytes_cons, ← hE, hd, Nat.max_eq_left (List.length_pos_iff.mpr (encodeRune_ne_nil r)),
      List.drop_length]
    cases t.length <;> rfl  -- `decodeAll` looks at its fuel first

theorem WFEnc.prefix_runes {E : List Nat} (h : WFEnc E) (p q : List Nat) (hpq : p ++ q = E) (hq : q ≠ [])
    (hp : p ≠ []) : ∃ t, runesOfBytes p = 0xFFFD :: t := by
  obtain ⟨b0, t, h0, h1, hn, hf⟩ := h
  cases p with
  | nil => exact absurd rfl hp
  | cons x p' =>
    obtain ⟨rfl, hp'⟩ := List.cons.inj hpq
    have hlen := length_lt_of_append hp' hq
    exact ⟨_, by rw [runesOfBytes_cons, decodeRune_short h0 h1 (by omega)]⟩

end RLV
