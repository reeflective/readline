import RLV.Model.Term
/-! The screen of the terminal model read as a function of the linear cell index `row * w + column` (`Term.lin`): what
printing rewrites is a stretch of consecutive cells (`Seg`), and stretches compose. -/
namespace RLV

theorem mul_add_div_mod (w R n : Nat) (hw0 : 0 < w) : (R * w + n) / w = R + n / w ∧ (R * w + n) % w = n % w := by
  rw [Nat.add_comm, Nat.add_mul_div_right _ _ hw0, Nat.add_mul_mod_self_right, Nat.add_comm]
  exact ⟨rfl, rfl⟩

theorem lin_le_iff {w x y : Nat} (hw0 : 0 < w) (hx : x ≤ w) (i : Nat) :
    y * w + x ≤ i ↔ y < i / w ∨ (i / w = y ∧ x ≤ i % w) := by
  have h1 : y + 1 ≤ i / w ↔ (y + 1) * w ≤ i := Nat.le_div_iff_mul_le hw0
  have h2 : i / w < y ↔ i < y * w := Nat.div_lt_iff_lt_mul hw0
  have h3 := Nat.div_add_mod' i w
  rw [Nat.add_mul, Nat.one_mul] at h1
  by_cases he : i / w = y
  · subst he
    omega
  · omega

theorem getD_any {l : List Nat} {i : Nat} (h : i < l.length) (a b : Nat) : l.getD i a = l.getD i b := by
  rw [List.getD_eq_getElem?_getD, List.getD_eq_getElem?_getD, List.getElem?_eq_getElem h]
  rfl

theorem getD_of_le {l : List Nat} {i : Nat} (h : l.length ≤ i) (a : Nat) : l.getD i a = a := by
  rw [List.getD_eq_getElem?_getD, List.getElem?_eq_none h]
  rfl

theorem getD_replicate (n d b : Nat) : (List.replicate n b).getD d b = b := by
  simp only [List.getD_eq_getElem?_getD, List.getElem?_replicate]
  split <;> rfl

theorem getD_append (l l' : List Nat) (d b : Nat) :
    (l ++ l').getD d b = if d < l.length then l.getD d b else l'.getD (d - l.length) b := by
  simp only [List.getD_eq_getElem?_getD, List.getElem?_append]
  split <;> rfl

namespace Term

theorem put_w (t : Term) (g : Nat) : (t.put g).w = t.w := rfl

theorem puts_nil (t : Term) : t.puts [] = t := rfl

theorem puts_w (gs : List Nat) : ∀ (t : Term), (t.puts gs).w = t.w := by
  induction gs with
  | nil => exact fun _ => rfl
  | cons g gs ih =>
    intro t
    show ((t.put g).puts gs).w = t.w
    rw [ih, put_w]

theorem nx_lt (t : Term) (h : t.WF) : t.nx < t.w := by
  obtain ⟨hw, hx, _⟩ := h
  unfold nx
  split <;> omega

theorem put_WF (t : Term) (g : Nat) (h : t.WF) : (t.put g).WF := by
  obtain ⟨hw, hx, hp⟩ := h
  refine ⟨hw, ?_, ?_⟩
  · show (if t.nx + 1 ≥ t.w then t.w - 1 else t.nx + 1) < t.w
    split <;> omega
  · intro hpw
    exact if_pos (of_decide_eq_true hpw)

theorem L_div_mod (t : Term) (h : t.WF) : t.L / t.w = t.ny ∧ t.L % t.w = t.nx := by
  have hn := nx_lt t h
  obtain ⟨hd, hm⟩ := mul_add_div_mod t.w t.ny t.nx h.1
  rw [Nat.div_eq_of_lt hn] at hd
  rw [Nat.mod_eq_of_lt hn] at hm
  exact ⟨hd, hm⟩

theorem put_nx (t : Term) (g : Nat) :
    (t.put g).nx = if t.nx + 1 ≥ t.w then 0 else t.nx + 1 := by
  by_cases hc : t.nx + 1 ≥ t.w
  · rw [if_pos hc]
    exact if_pos (decide_eq_true hc)
  · rw [if_neg hc]
    exact (if_neg (mt of_decide_eq_true hc)).trans (if_neg hc)

theorem put_ny (t : Term) (g : Nat) :
    (t.put g).ny = if t.nx + 1 ≥ t.w then t.ny + 1 else t.ny := by
  by_cases hc : t.nx + 1 ≥ t.w
  · rw [if_pos hc]
    exact if_pos (decide_eq_true hc)
  · rw [if_neg hc]
    exact if_neg (mt of_decide_eq_true hc)

theorem put_L (t : Term) (g : Nat) (h : t.WF) : (t.put g).L = t.L + 1 := by
  have hn := nx_lt t h
  unfold L
  rw [put_nx, put_ny, put_w]
  by_cases hc : t.nx + 1 ≥ t.w
  · rw [if_pos hc, if_pos hc, Nat.add_mul]
    omega
  · rw [if_neg hc, if_neg hc]
    omega

theorem put_pw (t : Term) (g : Nat) : (t.put g).pw = decide ((t.put g).nx = 0) := by
  rw [put_nx]
  refine decide_eq_decide.mpr ?_
  split <;> omega

theorem puts_pw : ∀ (gs : List Nat), gs ≠ [] → ∀ (t : Term), (t.puts gs).pw = decide ((t.puts gs).nx = 0)
  | [], hne, _ => absurd rfl hne
  | [g], _, t => put_pw t g
  | g :: g' :: gs, _, t => puts_pw (g' :: gs) (List.cons_ne_nil _ _) (t.put g)

def lin (t : Term) (i : Nat) : Nat := t.cell (i / t.w) (i % t.w)

theorem cell_lin {t : Term} {w : Nat} (hw : t.w = w) (r : Nat) {c : Nat} (hc : c < w) :
    t.cell r c = t.lin (r * w + c) := by
  subst hw
  obtain ⟨hd, hm⟩ := mul_add_div_mod t.w r c (by omega)
  unfold lin
  rw [hd, hm, Nat.div_eq_of_lt hc, Nat.mod_eq_of_lt hc]
  rfl

def Seg (s s' : Nat → Nat) (a n : Nat) (g : Nat → Nat) : Prop :=
  ∀ i, s' i = if a ≤ i ∧ i < a + n then g (i - a) else s i

theorem Seg.nil (s : Nat → Nat) (a : Nat) (g : Nat → Nat) : Seg s s a 0 g :=
  fun i => by rw [if_neg (by omega)]

theorem Seg.congr {s s' : Nat → Nat} {a n : Nat} {f g : Nat → Nat} (h : Seg s s' a n f)
    (hfg : ∀ d, d < n → f d = g d) : Seg s s' a n g := by
  intro i
  rw [h i]
  split
  · exact hfg _ (by omega)
  · rfl

/-- the first stretch reaches `k` cells into the second, which rewrites them (`line_paint` in Lemmas/RefreshRun,
`k ≤ 1`) -/
theorem Seg.append_over {s s1 s2 : Nat → Nat} {a n k m : Nat} {f g : Nat → Nat} (h1 : Seg s s1 a (n + k) f)
    (h2 : Seg s1 s2 (a + n) m g) (hk : k ≤ m) :
    Seg s s2 a (n + m) (fun d => if d < n then f d else g (d - n)) := by
  intro i
  rw [h2 i, h1 i]
  dsimp only
  by_cases hA : a + n ≤ i ∧ i < a + n + m
  · rw [if_pos hA, if_pos (by omega), if_neg (by omega), Nat.sub_add_eq]
  · rw [if_neg hA]
    by_cases hB : a ≤ i ∧ i < a + n
    · rw [if_pos (by omega), if_pos (by omega), if_pos (by omega)]
    · rw [if_neg (by omega), if_neg (by omega)]

theorem Seg.append {s s1 s2 : Nat → Nat} {a n m : Nat} {f g : Nat → Nat} (h1 : Seg s s1 a n f)
    (h2 : Seg s1 s2 (a + n) m g) : Seg s s2 a (n + m) (fun d => if d < n then f d else g (d - n)) :=
  Seg.append_over (k := 0) h1 h2 (Nat.zero_le m)

/-- `hn`: an empty second stretch may start anywhere (the secondary prompt that is not shown) -/
theorem Seg.inside {s s1 s2 : Nat → Nat} {a N b n : Nat} {f g : Nat → Nat} (h1 : Seg s s1 a N f)
    (h2 : Seg s1 s2 (a + b) n g) (hn : n ≠ 0 → b + n ≤ N) :
    Seg s s2 a N (fun d => if b ≤ d ∧ d < b + n then g (d - b) else f d) := by
  intro i
  rw [h2 i, h1 i]
  dsimp only
  by_cases hA : a + b ≤ i ∧ i < a + b + n
  · rw [if_pos hA, if_pos (by omega), if_pos (by omega), Nat.sub_add_eq]
  · rw [if_neg hA]
    by_cases hB : a ≤ i ∧ i < a + N
    · rw [if_pos hB, if_pos hB, if_neg (by omega)]
    · rw [if_neg hB, if_neg hB]

/-- `h2`: the erasure has no end (`ED0`), so the result is not a `Seg` -/
theorem Seg.erased_beyond {s s1 s2 : Nat → Nat} {a N b : Nat} {f : Nat → Nat} (h1 : Seg s s1 a N f)
    (h2 : ∀ i, s2 i = if a + N ≤ i then b else s1 i) (hf : ∀ d, N ≤ d → f d = b) (i : Nat) :
    s2 i = if i < a then s i else f (i - a) := by
  rw [h2 i, h1 i]
  by_cases hE : a + N ≤ i
  · rw [if_pos hE, if_neg (by omega), hf _ (by omega)]
  · rw [if_neg hE]
    by_cases h0 : i < a
    · rw [if_pos h0, if_neg (by omega)]
    · rw [if_neg h0, if_pos (by omega)]

theorem put_lin (t : Term) (g : Nat) (h : t.WF) : Seg t.lin (t.put g).lin t.L 1 (fun _ => g) := by
  intro i
  obtain ⟨hd, hm⟩ := L_div_mod t h
  have hcell : (i / t.w = t.ny ∧ i % t.w = t.nx) ↔ (t.L ≤ i ∧ i < t.L + 1) := by
    rw [← hd, ← hm]
    constructor
    · rintro ⟨a, b⟩
      have hi := Nat.div_add_mod' i t.w
      rw [a, b, Nat.div_add_mod'] at hi
      omega
    · intro hi
      have e : i = t.L := by omega
      rw [e]
      exact ⟨rfl, rfl⟩
  show (if i / t.w = t.ny ∧ i % t.w = t.nx then g else t.lin i) = _
  simp only [hcell]

/-- `b` is any default: no index beyond the length is read -/
theorem puts_lin (gs : List Nat) (b : Nat) : ∀ (t : Term), t.WF →
    (t.puts gs).WF ∧ (t.puts gs).L = t.L + gs.length ∧ Seg t.lin (t.puts gs).lin t.L gs.length (gs.getD · b) := by
  induction gs with
  | nil => exact fun t h => ⟨h, rfl, Seg.nil _ _ _⟩
  | cons g gs ih =>
    intro t h
    obtain ⟨h1, h3, h4⟩ := ih (t.put g) (put_WF t g h)
    rw [put_L t g h] at h3 h4
    rw [List.length_cons]
    refine ⟨h1, h3.trans (by omega), ?_⟩
    rw [Nat.add_comm]
    refine ((put_lin t g h).append h4).congr fun d _ => ?_
    cases d <;> rfl

theorem puts_spec (gs : List Nat) : ∀ (t : Term), t.WF →
    (t.puts gs).WF ∧ (t.puts gs).w = t.w ∧ (t.puts gs).L = t.L + gs.length ∧
    ∀ r c, c < t.w → (t.puts gs).cell r c =
      if t.L ≤ r * t.w + c ∧ r * t.w + c < t.L + gs.length
      then gs.getD (r * t.w + c - t.L) 0 else t.cell r c := by
  intro t h
  obtain ⟨h1, h3, h4⟩ := puts_lin gs 0 t h
  have h2 := puts_w gs t
  refine ⟨h1, h2, h3, fun r c hc => ?_⟩
  rw [cell_lin h2 r hc, h4, cell_lin rfl r hc]

end Term
end RLV
