import RLV.Model.Loop
import RLV.Lemmas.MatchTyped
import RLV.Lemmas.Cursor
import RLV.Lemmas.Utf8
import RLV.Lemmas.TypedTables
/-! The loop model of C02 (Model/Loop.lean): one iteration on a byte that is bound to a command, the equations of `run`. -/
namespace RLV.Loop
open RLV.Core

/-- what C02 assumes of the main keymap table and the command registry -/
structure TableOK (e : Eng) : Prop where
  ne : e.mainTbl.isEmpty = false
  ascii : ∀ b, printable b → lastExact [b] e.mainTbl = selfIns ∧ hasProperExt [b] e.mainTbl = false
  cr : lastExact [13] e.mainTbl = acceptB ∧ hasProperExt [13] e.mainTbl = false
  reg1 : e.registered.contains "self-insert" = true
  reg2 : e.registered.contains "accept-line" = true

theorem tableOK_of_typedOK {raw : List (List Nat × Bind)} (h : typedOK (Gen.normU raw) = true) (e : Eng)
    (ht : e.mainTbl = norm raw) (h1 : e.registered.contains "self-insert" = true)
    (h2 : e.registered.contains "accept-line" = true) : TableOK e := by
  obtain ⟨hh, ha, hc⟩ := typedOK_sound (norm_perm raw) h
  rw [← ht] at hh ha hc
  obtain ⟨x, hx, _⟩ := hh.has
  exact ⟨List.isEmpty_eq_false_iff.mpr (List.ne_nil_of_mem hx), ha, hc, h1, h2⟩

/-- state between keystrokes while typing at the end of the line -/
structure Good (sh : Sh) (typed : List Nat) : Prop where
  tbl : TableOK sh.eng
  line : sh.line = typed
  cur : sh.cur = typed.length
  hmk : sh.eng.keys.mkeys = []
  hmw : sh.eng.keys.mustWait = false
  hni : sh.eng.nonInc = false
  hli : sh.eng.lisearch = false
  hacc : sh.accepted = none

theorem matchMain_byte (e : Eng) (b : Nat) (rest : List Nat) (bd : Bind)
    (hne : e.mainTbl.isEmpty = false) (hni : e.nonInc = false) (hli : e.lisearch = false) (hb : b < 0x80) (hesc : b ≠ 0x1b)
    (hbuf : e.keys.buf = b :: rest) (hmk : e.keys.mkeys = [])
    (h1 : lastExact [b] e.mainTbl = bd) (h2 : hasProperExt [b] e.mainTbl = false)
    (hact : bd.action ≠ "") :
    matchMain e =
      ({ e with active := bd, prefixed := Bind.none,
                keys := { e.keys with buf := rest, matched := [b], mustWait := false } },
        bd, hasCmd e bd, false) := by
  have hr : dispatch e.mainTbl e.keys.buf [] [] false e.prefixed e.active = ⟨bd, false, [b], [b], rest, Bind.none⟩ := by
    rw [hbuf, dispatch_stop (read := []) h2, List.nil_append, h1, if_neg hact]
  rw [matchMain_typed e hne hni hli hmk hr (matchCharacter_off _ _ _ _ (.inl hact)) (List.cons_ne_nil _ _) nofun,
    runesOfBytes_single b hb]
  rfl

theorem insert_end (l : List Nat) (b : Nat) (hb : b ≠ 0) : Core.insert l (len l) [b] = .ok (l ++ [b]) := by
  have e : (len l).toNat = l.length := Int.toNat_natCast _
  rw [insert_spec l (len l) [b] (List.forall_mem_singleton.mpr hb) (Int.natCast_nonneg _) (Int.le_refl _), e,
    List.take_length, List.drop_length, List.append_nil]

theorem iter_eq (sh : Sh) {e' : Eng} {bd : Bind} {cmd pfx : Bool}
    (hm : matchMain { sh.eng with keys := sh.eng.keys.flushUsed } = (e', bd, cmd, pfx)) :
    iter sh = if pfx then pure { sh with eng := e' } else if cmd then runCmd bd.action { sh with eng := e' }
      else pure { sh with eng := e' } := by
  unfold iter
  simp only [hm]

/-- `self-insert` shows a character from the space on as itself, except U+0080..U+00FF when `output-meta` is off -/
theorem shown_self (om : Bool) (r : Nat) (h : 0x20 ≤ r) (h' : om = true ∨ ¬ (0x80 ≤ r ∧ r ≤ 0xff)) :
    (if om = true ∧ r ≠ 0x1b then [r] else quote r) = [r] := by
  rcases h' with h' | h'
  · rw [if_pos ⟨h', by omega⟩]
  · have hq : quote r = [r] := by
      unfold quote
      rw [if_neg (by omega), if_neg (by omega), if_neg (by omega)]
    split
    · rfl
    · exact hq

theorem iter_insert (sh : Sh) (typed : List Nat) (r : Nat) (e' : Eng) (hl : sh.line = typed)
    (hcur : sh.cur = typed.length) (h20 : 0x20 ≤ r) (hom : sh.outputMeta = true ∨ ¬ (0x80 ≤ r ∧ r ≤ 0xff))
    (hm : matchMain { sh.eng with keys := sh.eng.keys.flushUsed } = (e', selfInsertBind, true, false))
    (hmat : e'.keys.matched = [r]) :
    iter sh = .ok { sh with eng := e', line := typed ++ [r], cur := (typed ++ [r]).length } := by
  rw [iter_eq sh hm, if_neg Bool.false_ne_true, if_pos rfl]
  have hca : (checkAppend sh.line ⟨sh.cur, -1⟩).pos = len sh.line := by
    rw [hcur, hl]
    exact checkAppend_fix _ _ (Int.natCast_nonneg _) (Int.le_refl _)
  simp only [runCmd, selfInsertBind, if_true, selfInsert, hmat, shown_self _ r h20 hom, hca,
    insert_end _ r (by omega), ok_bind, pure_eq]
  rw [hl]
  -- (`congr` is slow here: it first tries `rfl` on the three clamps)
  refine congrArg (fun c : Int => (Except.ok { sh with eng := e', line := typed ++ [r], cur := c } : G Sh)) ?_
  -- `InsertAt` at the end of the line: past the rune, back over it and forth again, each move clamped to the line
  simp only [checkAppend_pos, len, List.length_append, List.length_singleton]
  omega

theorem iter_printable (sh : Sh) (typed : List Nat) (b : Nat) (rest : List Nat)
    (g : Good sh typed) (hb : printable b) (hbuf : sh.eng.keys.buf = b :: rest) :
    ∃ sh', iter sh = .ok sh' ∧ Good sh' (typed ++ [b]) ∧ sh'.eng.keys.buf = rest ∧
      sh'.outputMeta = sh.outputMeta ∧
      ∃ a K, sh'.eng = { sh.eng with active := a, prefixed := Bind.none, keys := K } := by
  obtain ⟨hb1, hb2⟩ := hb
  obtain ⟨ha1, ha2⟩ := g.tbl.ascii b ⟨hb1, hb2⟩
  have hm := matchMain_byte { sh.eng with keys := sh.eng.keys.flushUsed } b rest selfIns g.tbl.ne g.hni g.hli
    (by omega) (by omega) hbuf g.hmk ha1 ha2 (by decide)
  have hc : hasCmd ({ sh.eng with keys := sh.eng.keys.flushUsed } : Eng) selfIns = true := hasCmd_reg g.tbl.reg1
  rw [hc] at hm
  have hit := iter_insert sh typed b _ g.line g.cur hb1 (Or.inr (by omega)) hm rfl
  refine ⟨_, hit, ?_, rfl, rfl, _, _, rfl⟩
  -- `{ g.tbl with }`: `TableOK` of the new engine, whose fields mention `mainTbl` and `registered` only
  exact { g with tbl := { g.tbl with }, line := rfl, cur := rfl, hmw := rfl }

theorem iter_cr (sh : Sh) (typed : List Nat) (rest : List Nat)
    (g : Good sh typed) (hbuf : sh.eng.keys.buf = 13 :: rest) :
    ∃ sh', iter sh = .ok sh' ∧ sh'.accepted = some typed ∧ sh'.outputMeta = sh.outputMeta := by
  obtain ⟨ha1, ha2⟩ := g.tbl.cr
  have hm := matchMain_byte { sh.eng with keys := sh.eng.keys.flushUsed } 13 rest acceptB g.tbl.ne g.hni g.hli
    (by omega) (by omega) hbuf g.hmk ha1 ha2 (by decide)
  have hc : hasCmd ({ sh.eng with keys := sh.eng.keys.flushUsed } : Eng) acceptB = true := hasCmd_reg g.tbl.reg2
  rw [iter_eq sh hm, if_neg Bool.false_ne_true, hc, if_pos rfl]
  have hrun : ∀ s : Sh, runCmd "accept-line" s = .ok { s with accepted := some s.line } := by
    intro s
    rw [runCmd, if_neg (by decide), if_pos rfl]
    rfl
  exact ⟨_, hrun _, congrArg some g.line, rfl⟩

theorem needRead_typed {k : Keys} (h : k.mkeys = []) : needRead k = (k.buf.isEmpty || k.mustWait) := by
  unfold needRead
  rw [h]
  cases k.buf.isEmpty <;> cases k.mustWait <;> rfl

theorem run_accepted (fuel : Nat) (chunks : List (List Nat)) (sh : Sh) (l : List Nat)
    (h : sh.accepted = some l) : run (fuel + 1) chunks sh = .ok (some l) := by
  rw [run.eq_def]
  simp only [h]
  rfl

theorem run_read (fuel : Nat) (c : List Nat) (cs : List (List Nat)) (sh : Sh)
    (h : sh.accepted = none) (hn : needRead sh.eng.keys = true) (hc : c.isEmpty = false) :
    run (fuel + 1) (c :: cs) sh = (do let sh' ← iter (feed sh c); run fuel cs sh') := by
  rw [run]
  simp only [h, hn, hc, Bool.false_eq_true, if_false, if_true]

theorem run_skip (fuel : Nat) (cs : List (List Nat)) (sh : Sh)
    (h : sh.accepted = none) (hn : needRead sh.eng.keys = true) :
    run (fuel + 1) ([] :: cs) sh = run fuel cs sh := by
  rw [run]
  simp only [h, hn, List.isEmpty_nil, if_true]

theorem run_noread (fuel : Nat) (chunks : List (List Nat)) (sh : Sh)
    (h : sh.accepted = none) (hn : needRead sh.eng.keys = false) :
    run (fuel + 1) chunks sh = (do let sh' ← iter sh; run fuel chunks sh') := by
  rw [run.eq_def]
  simp only [h, hn, Bool.false_eq_true, if_false]

end RLV.Loop
