import RLV.Lemmas.RefreshToks
import RLV.Model.TermRun
import RLV.Lemmas.TermLin
/-! The frame: what the screen is to show after the redisplay of the buffer made of the lines `first :: rest`, as a
function of the linear offset from the start of the prompt's row. Width-1 glyphs. -/
namespace RLV
open Term

/-- the glyph at linear offset `d` from the first row of the lines after the first of the buffer: each line on its own
rows, the indentation blank, blank after the text and after the last line -/
def Term.expectMore (w indent : Nat) : List (List Nat) → Nat → Nat
  | [], _ => blank
  | ln :: rest, d =>
    if d < blockRows w indent ln * w then (List.replicate indent blank ++ ln).getD d blank
    else expectMore w indent rest (d - blockRows w indent ln * w)

namespace Disp

/-- The frame of a buffer of several lines as the many-line statement of C04 writes it, and nothing else does: the
secondary prompt in the indentation of the last line when it fits, over the prompt and the lines. The lemmas are about
`frame`; `frame_eq_frameCell` ties the two. -/
def frameCell (w : Nat) (prompt sec first : List Nat) (rest : List (List Nat)) (d : Nat) : Nat :=
  if sec.length ≤ prompt.length ∧
      blockRows w prompt.length first * w + rowsOfLines w prompt.length rest.dropLast * w ≤ d ∧
      d < blockRows w prompt.length first * w + rowsOfLines w prompt.length rest.dropLast * w + sec.length
  then sec.getD (d - (blockRows w prompt.length first * w + rowsOfLines w prompt.length rest.dropLast * w)) blank
  else if d < blockRows w prompt.length first * w then (prompt ++ first).getD d blank
  else expectMore w prompt.length rest (d - blockRows w prompt.length first * w)

/-- the frame of any buffer, one line included (no secondary prompt then: `secShown`) -/
def frame (w : Nat) (prompt sec first : List Nat) (rest : List (List Nat)) (d : Nat) : Nat :=
  let endFirst := blockRows w prompt.length first * w
  let startLast := endFirst + rowsOfLines w prompt.length rest.dropLast * w
  let shown := secShown prompt.length sec rest.length
  if startLast ≤ d ∧ d < startLast + shown.length then shown.getD (d - startLast) blank
  else if d < endFirst then (prompt ++ first).getD d blank
  else expectMore w prompt.length rest (d - endFirst)

theorem frame_eq_frameCell {w : Nat} {prompt sec first : List Nat} {rest : List (List Nat)} {d : Nat}
    (hrest : rest ≠ []) : frame w prompt sec first rest d = frameCell w prompt sec first rest d := by
  have hr : 0 < rest.length := List.length_pos_iff.mpr hrest
  unfold frame frameCell secShown
  dsimp only
  by_cases hs : sec.length ≤ prompt.length
  · simp only [hr, hs, and_self, if_true, true_and]
  · simp only [hs, and_false, if_false, false_and, List.length_nil]
    rw [if_neg (by omega)]

/-- the default `0` is that of the one-line statement of C04; no index beyond the length is read -/
theorem frame_nil {w : Nat} {prompt sec first : List Nat} {d : Nat} (hw0 : 0 < w) :
    frame w prompt sec first [] d =
      if d < prompt.length + first.length then (prompt ++ first).getD d 0 else blank := by
  have hB : prompt.length + first.length < blockRows w prompt.length first * w := by
    have hdm := Nat.div_add_mod' (first.length + prompt.length) w
    have hlt := Nat.mod_lt (first.length + prompt.length) hw0
    rw [blockRows, Nat.add_mul, Nat.one_mul]
    omega
  have hlen : (prompt ++ first).length = prompt.length + first.length := List.length_append
  unfold frame secShown
  dsimp only
  simp only [List.length_nil, Nat.lt_irrefl, false_and, if_false, Nat.add_zero]
  rw [if_neg (by omega), expectMore]
  by_cases hb : d < prompt.length + first.length
  · rw [if_pos hb, if_pos (by omega)]
    exact getD_any (by omega) _ _
  · rw [if_neg hb, getD_of_le (by omega), ite_self]

theorem expectMore_after_last (w indent : Nat) : ∀ (rest : List (List Nat)) (a : List Nat) (d : Nat), rest ≠ [] →
    rowsOfLines w indent rest.dropLast * w + ((rest.getLastD a).length + indent) ≤ d →
    expectMore w indent rest d = blank
  | [], _, _, h, _ => absurd rfl h
  | [b], _, d, _, hd => by
    simp only [List.dropLast_singleton, rowsOfLines, Nat.zero_mul, Nat.zero_add, List.getLastD_cons,
      List.getLastD_nil] at hd
    have hlen : (List.replicate indent blank ++ b).length = indent + b.length := by
      rw [List.length_append, List.length_replicate]
    simp only [expectMore]
    split
    · exact getD_of_le (by omega) _
    · rfl
  | b :: c :: tl, _, d, _, hd => by
    rw [List.dropLast_cons_cons, List.getLastD_cons, rowsOfLines, Nat.add_mul] at hd
    rw [expectMore, if_neg (by omega)]
    exact expectMore_after_last w indent (c :: tl) b _ (List.cons_ne_nil _ _) (by omega)

/-- `hd`: from `lineRows * w + lineCol` on, the two numbers as `coordsLine_join` gives them -/
theorem frame_after_end (w : Nat) (prompt sec first : List Nat) (rest : List (List Nat)) (d : Nat) (hw0 : 0 < w)
    (hd : ((first.length + prompt.length) / w + rowsOfLines w prompt.length rest) * w +
      ((rest.getLastD first).length + prompt.length) % w ≤ d) :
    frame w prompt sec first rest d = blank := by
  have hmod := Nat.div_add_mod' ((rest.getLastD first).length + prompt.length) w
  cases rest with
  | nil =>
    rw [rowsOfLines, Nat.add_zero, List.getLastD_nil] at hd
    rw [List.getLastD_nil] at hmod
    rw [frame_nil hw0, if_neg (by omega)]
  | cons b tl =>
    have hsh := (secShown_length prompt.length sec (b :: tl).length).1
    have hB : ∀ ln, blockRows w prompt.length ln * w = (ln.length + prompt.length) / w * w + w := fun ln => by
      rw [blockRows, Nat.add_mul, Nat.one_mul]
    rw [rowsOfLines_dropLast w prompt.length (b :: tl) first (List.cons_ne_nil _ _), Nat.add_mul, Nat.add_mul,
      hB] at hd
    rw [frame, hB first, if_neg (by omega), if_neg (by omega)]
    exact expectMore_after_last w prompt.length (b :: tl) first _ (List.cons_ne_nil _ _) (by omega)

end RLV.Disp
