import RLV.Model.MLoop
/-! `MLoop.iterN` and `MLoop.session` case by case: the step of `iterN`, and one equation for each way through `session`
with fuel left. -/
namespace RLV.MLoop

theorem not_settled {s : LS} (h : ¬ Settled s) : s.done = false ∧ needRead s.eng.keys = false := by
  rwa [Settled, not_or, Bool.not_eq_true, Bool.not_eq_true] at h

variable (C : Cmds) {s : LS}

theorem iterN_succ (h : ¬ Settled s) (n : Nat) : iterN C (n + 1) s = iterN C n (iter C s) :=
  if_neg h

theorem session_done (hd : s.done = true) (f : Nat) (chunks : List (List Nat)) :
    session C (f + 1) chunks s = (s, true) := by
  simp only [session, hd, if_true]

theorem session_iter (hd : s.done = false) (hn : needRead s.eng.keys = false) (f : Nat) (chunks : List (List Nat)) :
    session C (f + 1) chunks s = session C f chunks (iter C s) := by
  simp only [session, hd, hn, Bool.false_eq_true, if_false]

theorem session_nil (hd : s.done = false) (hn : needRead s.eng.keys = true) (f : Nat) :
    session C (f + 1) [] s = (s, true) := by
  simp only [session, hd, hn, Bool.false_eq_true, if_false, if_true]

theorem session_cons_nil (hd : s.done = false) (hn : needRead s.eng.keys = true) (f : Nat) (cs : List (List Nat)) :
    session C (f + 1) ([] :: cs) s = session C f cs s := by
  simp only [session, hd, hn, Bool.false_eq_true, if_false, if_true, List.isEmpty_nil]

theorem session_cons_cons (hd : s.done = false) (hn : needRead s.eng.keys = true) (f : Nat) (a : Nat) (t : List Nat)
    (cs : List (List Nat)) :
    session C (f + 1) ((a :: t) :: cs) s = session C f cs (iter C (read s (a :: t))) := by
  simp only [session, hd, hn, Bool.false_eq_true, if_false, if_true, List.isEmpty_cons]

end RLV.MLoop
