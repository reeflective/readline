import RLV.Lemmas.KeyQueue
/-! The measure `m3` that decreases, lexicographically, along the iterations of the main loop that do not read
the terminal (C01).
While no fed key has been used since the last read (`fromMacro = false`) the typed keys left are counted; fed keys
are not, but they can only be added (taking one ends the phase), and the first feed pays with the last component.
Afterwards every feed that adds keys uses up one of the `maxNested` feeds, and every dispatch takes a key. -/
namespace RLV
open MLoop (needRead needRead_iff needRead_of_idle)

def m3 (k : Keys) : Nat × Nat × Nat :=
  if k.fromMacro then (0, Keys.maxNested + 1 - k.nested, k.pending)
  else (1, k.buf.length, if k.mkeys.isEmpty then 1 else 0)

def lt3 (a b : Nat × Nat × Nat) : Prop :=
  a.1 < b.1 ∨ (a.1 = b.1 ∧ (a.2.1 < b.2.1 ∨ (a.2.1 = b.2.1 ∧ a.2.2 < b.2.2)))

def le3 (a b : Nat × Nat × Nat) : Prop := lt3 a b ∨ a = b

/-- while the feeds are not counted the counter is within bounds (`WaitAvailableKeys` resets it with the flag) -/
def Keys.Inv (k : Keys) : Prop := k.fromMacro = false → k.nested ≤ Keys.maxNested

/-- keys were taken from `k` and keys put back in front of its typed keys, none fed: what every stage of a matcher
does to the stack. Between two such stacks `m3` compares as the numbers of keys waiting do (`Kept.measure`). -/
structure Kept (k k' : Keys) : Prop where
  nested : k'.nested = k.nested
  flagUp : k.fromMacro = true → k'.fromMacro = true
  /-- while the flag is down no fed key has been taken -/
  mkeys : k'.fromMacro = false → k'.mkeys.length = k.mkeys.length

/-- where a matcher that found the stack `k` leaves it; `pfx`: it reports a prefix -/
structure Out (k k' : Keys) (pfx : Bool) (S : Prop) : Prop where
  kept : Kept k k'
  le : k'.pending ≤ k.pending
  /-- the next `WaitAvailableKeys` reads the terminal (every key was read as a proper prefix and pushed back with the
  order to wait, or there was none), or no prefix is reported and a key is gone or `S` holds (`False` for `MatchMain`;
  for `MatchLocal`: the bind selected is the stale prefixed one) -/
  ends : needRead k' = true ∨ (pfx = false ∧ (k'.pending < k.pending ∨ S))

/-- what `Shell.run` may do to the key stack (bind macros and commands take keys and feed keys): the measure
decreases, or stays while a stack on which `WaitAvailableKeys` reads the terminal remains one -/
def RunRel (k k' : Keys) : Prop :=
  k.Inv → k'.Inv ∧ (lt3 (m3 k') (m3 k) ∨ (m3 k' = m3 k ∧ (needRead k = true → needRead k' = true)))

/-- `k'` is `k` up to `matched`, which the loop does not look at -/
def Keys.SameQueues (k k' : Keys) : Prop :=
  k'.buf = k.buf ∧ k'.mkeys = k.mkeys ∧ k'.mustWait = k.mustWait ∧ k'.fromMacro = k.fromMacro ∧ k'.nested = k.nested

theorem m3_up {k : Keys} (h : k.fromMacro = true) : m3 k = (0, Keys.maxNested + 1 - k.nested, k.pending) := if_pos h

theorem m3_down {k : Keys} (h : k.fromMacro = false) :
    m3 k = (1, k.buf.length, if k.mkeys.isEmpty then 1 else 0) := if_neg (h ▸ Bool.false_ne_true)

theorem lt3.of_fst {a b : Nat × Nat × Nat} (h : a.1 < b.1) : lt3 a b := Or.inl h

theorem lt3.of_snd {x a b c d : Nat} (h : a < c) : lt3 (x, a, b) (x, c, d) := Or.inr ⟨rfl, Or.inl h⟩

theorem lt3.of_thd {x y a b : Nat} (h : a < b) : lt3 (x, y, a) (x, y, b) := Or.inr ⟨rfl, Or.inr ⟨rfl, h⟩⟩

theorem lt3_wf : WellFounded lt3 := by
  refine Subrelation.wf (fun h => ?_) (Prod.lex Nat.lt_wfRel (Prod.lex Nat.lt_wfRel Nat.lt_wfRel)).wf
  exact Prod.lex_def.mpr (h.imp_right (And.imp_right Prod.lex_def.mpr))

theorem lt3_trans {a b c : Nat × Nat × Nat} (h1 : lt3 a b) (h2 : lt3 b c) : lt3 a c := by
  unfold lt3 at h1 h2 ⊢
  omega

theorem lt3_of_lt3_of_le3 {a b c : Nat × Nat × Nat} (h1 : lt3 a b) (h2 : le3 b c) : lt3 a c :=
  h2.elim (lt3_trans h1) fun h => h ▸ h1

theorem lt3_of_le3_of_lt3 {a b c : Nat × Nat × Nat} (h1 : le3 a b) (h2 : lt3 b c) : lt3 a c :=
  h1.elim (fun h => lt3_trans h h2) fun h => h ▸ h2

theorem le3_trans {a b c : Nat × Nat × Nat} (h1 : le3 a b) (h2 : le3 b c) : le3 a c :=
  h1.elim (fun h => Or.inl (lt3_of_lt3_of_le3 h h2)) fun h => h ▸ h2

theorem Out.imp {k k' : Keys} {pfx : Bool} {S S' : Prop} (h : Out k k' pfx S) (f : S → S') : Out k k' pfx S' :=
  { h with ends := h.ends.imp_right (And.imp_right (Or.imp_right f)) }

theorem Out.blocked {k k' : Keys} {pfx : Bool} {S : Prop} (h : Out k k' pfx S) (hp : pfx = true) :
    needRead k' = true :=
  h.ends.resolve_right fun ⟨hf, _⟩ => Bool.noConfusion (hp.symm.trans hf)

theorem isEmpty_iff_length {α : Type} (l : List α) : l.isEmpty = true ↔ l.length = 0 :=
  List.isEmpty_iff_length_eq_zero

theorem Kept.refl (k : Keys) : Kept k k := ⟨rfl, id, fun _ => rfl⟩

theorem Kept.trans {k k1 k2 : Keys} (h1 : Kept k k1) (h2 : Kept k1 k2) : Kept k k2 := by
  refine ⟨h2.nested.trans h1.nested, fun h => h2.flagUp (h1.flagUp h), fun h => ?_⟩
  have hm : k1.fromMacro = false := Bool.eq_false_iff.mpr fun hk => Bool.noConfusion ((h2.flagUp hk).symm.trans h)
  exact (h2.mkeys h).trans (h1.mkeys hm)

theorem Kept.pop : ∀ k : Keys, Kept k k.pop
  | { buf := [], mkeys := [], .. } | { buf := _ :: _, .. } => ⟨rfl, id, fun _ => rfl⟩
  | { buf := [], mkeys := _ :: _, .. } => ⟨rfl, fun _ => rfl, nofun⟩

theorem Kept.popN : ∀ (n : Nat) (k : Keys), Kept k (k.popN n)
  | 0, k => Kept.refl k
  | n+1, k => (Kept.pop k).trans (Kept.popN n k.pop)

theorem Kept.popForce (k : Keys) : Kept k k.popForce :=
  let h := Kept.pop k
  ⟨h.nested, h.flagUp, h.mkeys⟩

theorem Kept.matchedKeys (k : Keys) (m args : Seq) : Kept k (k.matchedKeys m args) := ⟨rfl, id, fun _ => rfl⟩

theorem Kept.matchedPrefix (k : Keys) : ∀ p : Seq, Kept k (k.matchedPrefix p)
  | [] => Kept.refl k
  | _ :: _ => ⟨rfl, id, fun _ => rfl⟩

theorem Kept.measure {k k' : Keys} (h : Kept k k') (hle : k'.pending ≤ k.pending) :
    lt3 (m3 k') (m3 k) ∨ (k'.pending = k.pending ∧ m3 k' = m3 k) := by
  cases hf' : k'.fromMacro with
  | false =>
    cases hf : k.fromMacro with
    | false =>
      -- the macro queue is as long as it was, so the typed keys compare as all keys do
      have hm := h.mkeys hf'
      have hem : k'.mkeys.isEmpty = k.mkeys.isEmpty := by
        rw [Bool.eq_iff_iff, List.isEmpty_iff_length_eq_zero, List.isEmpty_iff_length_eq_zero, hm]
      rw [m3_down hf', m3_down hf, hem]
      unfold Keys.pending at hle ⊢
      rcases Nat.lt_or_eq_of_le hle with hlt | heq
      · exact Or.inl (lt3.of_snd (by omega))
      · have hbuf : k'.buf.length = k.buf.length := by omega
        exact Or.inr ⟨heq, by rw [hbuf]⟩
    | true => exact absurd (h.flagUp hf) (hf' ▸ Bool.false_ne_true)
  | true =>
    cases hf : k.fromMacro with
    | false =>
      rw [m3_up hf', m3_down hf]
      exact Or.inl (lt3.of_fst Nat.zero_lt_one)
    | true =>
      rw [m3_up hf', m3_up hf, h.nested]
      rcases Nat.lt_or_eq_of_le hle with hlt | heq
      · exact Or.inl (lt3.of_thd hlt)
      · exact Or.inr ⟨heq, by rw [heq]⟩

theorem Kept.inv {k k' : Keys} (h : Kept k k') (hi : k.Inv) : k'.Inv := by
  intro hf
  rw [h.nested]
  exact hi (Bool.eq_false_iff.mpr fun hk => Bool.noConfusion ((h.flagUp hk).symm.trans hf))

theorem Kept.out {k k' : Keys} {S : Prop} (h : Kept k k') (hle : k'.pending ≤ k.pending)
    (hlt : 0 < k.pending → k'.pending < k.pending) : Out k k' false S := by
  refine ⟨h, hle, ?_⟩
  rcases Nat.eq_zero_or_pos k.pending with hz | hpos
  · exact Or.inl (needRead_of_idle (by omega))
  · exact Or.inr ⟨rfl, Or.inl (hlt hpos)⟩

/-- `handleEscape` drops a key (`PopForce`) -/
theorem Out.popForce {k k' : Keys} {pfx : Bool} {S S' : Prop} (h : Out k k' pfx S) : Out k k'.popForce false S' := by
  have hp : k'.popForce.pending = k'.pending - 1 := k'.pop_pending
  have hle := h.le
  exact (h.kept.trans (Kept.popForce k')).out (by omega) fun _ => by omega

theorem RunRel.refl (k : Keys) : RunRel k k := fun hi => ⟨hi, Or.inr ⟨rfl, id⟩⟩

theorem RunRel.trans {a b c : Keys} (h1 : RunRel a b) (h2 : RunRel b c) : RunRel a c := by
  intro hi
  obtain ⟨hb, s1⟩ := h1 hi
  obtain ⟨hc, s2⟩ := h2 hb
  refine ⟨hc, ?_⟩
  rcases s1, s2 with ⟨l1 | ⟨e1, n1⟩, l2 | ⟨e2, n2⟩⟩
  · exact Or.inl (lt3_trans l2 l1)
  · exact Or.inl (by rwa [e2])
  · exact Or.inl (by rwa [← e1])
  · exact Or.inr ⟨e2.trans e1, n2 ∘ n1⟩

theorem RunRel.of_same {k k' : Keys} (h : k.SameQueues k') : RunRel k k' := by
  obtain ⟨hb, hm, hw, hf, hn⟩ := h
  refine fun hi => ⟨fun hf' => ?_, Or.inr ⟨?_, fun h => ?_⟩⟩
  · rw [hn]
    exact hi (hf.symm.trans hf')
  · unfold m3 Keys.pending
    rw [hb, hm, hf, hn]
  · rwa [needRead_iff, hb, hm, hw, ← needRead_iff]

theorem RunRel.pop (k : Keys) : RunRel k k.pop := by
  have hp := k.pop_pending
  refine fun hi => ⟨(Kept.pop k).inv hi, ((Kept.pop k).measure (by omega)).imp_right ?_⟩
  -- the measure decreases, or no key was taken: then there was none, and `pop` did nothing
  rintro ⟨h0, -⟩
  have hz : k.pending = 0 := by omega
  rw [Keys.pop_idle hz]
  exact ⟨rfl, id⟩

theorem RunRel.popN : ∀ (n : Nat) (k : Keys), RunRel k (k.popN n)
  | 0, k => RunRel.refl k
  | n+1, k => (RunRel.pop k).trans (RunRel.popN n k.pop)

theorem RunRel.feed (k : Keys) (ks : List Nat) : RunRel k (k.feed ks) := by
  cases ks with
  | nil => exact RunRel.refl k
  | cons a t =>
    intro hi
    unfold Keys.feed
    simp only [List.isEmpty_cons, Bool.false_eq_true, if_false]
    cases hf : k.fromMacro with
    | false =>
      -- feeds not counted yet: the invariant bounds `nested`, so the keys are added
      rw [if_neg Bool.false_ne_true, if_neg (Nat.not_lt.mpr (hi hf)), m3_down hf, m3_down rfl]
      refine ⟨fun _ => hi hf, ?_⟩
      cases hm : k.mkeys with
      | nil => exact Or.inl (lt3.of_thd Nat.zero_lt_one)
      | cons x m =>
        refine Or.inr ⟨rfl, fun h => ?_⟩
        rw [needRead_iff, hm] at h
        cases h.1
    | true =>
      -- feeds counted: each pays for the keys it adds, or they are dropped
      rw [if_pos rfl, m3_up hf]
      split
      next hdrop =>
        -- dropped, with the fed keys that were waiting: no component grows; if none decreases (`hn`) none was waiting,
        -- and a stack that waits for the terminal still does
        rw [m3_up rfl]
        unfold lt3 Keys.pending
        refine ⟨nofun, Decidable.or_iff_not_imp_left.mpr fun hn => ⟨?_, fun h => ?_⟩⟩
        · simp only [Prod.mk.injEq, true_and, List.length_nil] at hn ⊢
          omega
        · exact (needRead_iff _).mpr ⟨rfl, ((needRead_iff k).mp h).2⟩
      next hkeep =>
        rw [m3_up rfl]
        refine ⟨nofun, Or.inl (lt3.of_snd ?_)⟩
        dsimp only
        omega

/-- a matcher, then the bind it selected is run: either half of an iteration of the main loop -/
theorem Out.run {k k1 k2 : Keys} {pfx : Bool} {S : Prop} (ho : Out k k1 pfx S) (hr : RunRel k1 k2) (hi : k.Inv) :
    k1.Inv ∧ k2.Inv ∧ le3 (m3 k2) (m3 k) ∧ (pfx = false → needRead k2 = true ∨ lt3 (m3 k2) (m3 k) ∨ S) := by
  have hi1 := ho.kept.inv hi
  have hm1 := ho.kept.measure ho.le
  have hle1 : le3 (m3 k1) (m3 k) := hm1.imp_right And.right
  obtain ⟨hi2, hs⟩ := hr hi1
  refine ⟨hi1, hi2, le3_trans (hs.imp_right And.left) hle1, fun _ => ?_⟩
  rcases ho.ends with hw | ⟨_, hlt | hS⟩
  · -- the loop would block: the run leaves it so unless it fed keys, which is paid for
    exact hs.symm.imp (fun e => e.2 hw) fun l => Or.inl (lt3_of_lt3_of_le3 l hle1)
  · have hlt1 : lt3 (m3 k1) (m3 k) := hm1.resolve_right fun ⟨he, _⟩ => Nat.ne_of_lt hlt he
    exact Or.inr (Or.inl (lt3_of_le3_of_lt3 (hs.imp_right And.left) hlt1))
  · exact Or.inr (Or.inr hS)

/-! `Kept` between stacks that hold as many keys (`Returned`) and fewer (`Consumed`): the two cases of `Kept.measure`. -/

/-- none taken, or all given back. `same`: `m3` looks at the two queues separately only while the flag is down -/
structure Returned (k k' : Keys) : Prop where
  nested : k'.nested = k.nested
  pend : k'.pending = k.pending
  flagUp : k.fromMacro = true → k'.fromMacro = true
  same : k'.fromMacro = false → k'.buf.length = k.buf.length ∧ k'.mkeys.length = k.mkeys.length

structure Consumed (k k' : Keys) : Prop where
  nested : k'.nested = k.nested
  pend : k'.pending < k.pending
  flagUp : k.fromMacro = true → k'.fromMacro = true
  same : k'.fromMacro = false → k'.buf.length < k.buf.length ∧ k'.mkeys.length = k.mkeys.length

theorem Returned.kept {k k' : Keys} (h : Returned k k') : Kept k k' := ⟨h.nested, h.flagUp, fun hf => (h.same hf).2⟩

theorem Consumed.kept {k k' : Keys} (h : Consumed k k') : Kept k k' := ⟨h.nested, h.flagUp, fun hf => (h.same hf).2⟩

theorem Kept.returned {k k' : Keys} (h : Kept k k') (hp : k'.pending = k.pending) : Returned k k' := by
  refine ⟨h.nested, hp, h.flagUp, fun hf => ?_⟩
  have hm := h.mkeys hf
  unfold Keys.pending at hp
  omega

theorem Kept.consumed {k k' : Keys} (h : Kept k k') (hp : k'.pending < k.pending) : Consumed k k' := by
  refine ⟨h.nested, hp, h.flagUp, fun hf => ?_⟩
  have hm := h.mkeys hf
  unfold Keys.pending at hp
  omega

theorem Returned.refl (k : Keys) : Returned k k := (Kept.refl k).returned rfl

theorem Returned.trans {a b c : Keys} (h1 : Returned a b) (h2 : Returned b c) : Returned a c :=
  (h1.kept.trans h2.kept).returned (h2.pend.trans h1.pend)

theorem Returned.consumed {a b c : Keys} (h1 : Returned a b) (h2 : Consumed b c) : Consumed a c :=
  (h1.kept.trans h2.kept).consumed (Nat.lt_of_lt_of_eq h2.pend h1.pend)

theorem Consumed.returned {a b c : Keys} (h1 : Consumed a b) (h2 : Returned b c) : Consumed a c :=
  (h1.kept.trans h2.kept).consumed (Nat.lt_of_le_of_lt (Nat.le_of_eq h2.pend) h1.pend)

theorem Returned.le {k k' : Keys} (h : Returned k k') : le3 (m3 k') (m3 k) :=
  (h.kept.measure (Nat.le_of_eq h.pend)).imp_right And.right

theorem Consumed.lt {k k' : Keys} (h : Consumed k k') : lt3 (m3 k') (m3 k) :=
  (h.kept.measure (Nat.le_of_lt h.pend)).resolve_right fun ⟨he, _⟩ => Nat.ne_of_lt h.pend he

end RLV
