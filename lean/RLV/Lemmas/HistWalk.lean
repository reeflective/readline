import RLV.Model.Hist
/-! `Walk` once the position has moved (`walkTo`) and `InsertMatch` (`insertMatch`) by what they do to the position and
the buffer. Neither touches the undo histories, the entries or the two flags (`Frame`; `walk` itself first saves the
line being typed, `walk_cases`); where the position ends and which line is then in the buffer is said field by
field. -/
namespace RLV.Hist
open RLV.Core

theorem lineKey_pos (s : St) (h : -1 < s.hpos) : lineKey s = (s.src.length : Int) - s.hpos := by
  unfold lineKey
  rw [if_pos h]

theorem lineKey_neg (s : St) (h : s.hpos = -1) : lineKey s = -1 := by
  unfold lineKey
  rw [h]
  rfl

theorem getLine_eq_some {src : List (List Nat)} (hne : src ≠ []) {i : Int} {l : List Nat} :
    getLine src i = some l ↔ (0 ≤ i ∧ i < src.length) ∧ src.getD i.toNat [] = l := by
  unfold getLine
  rw [if_neg fun h => hne (List.isEmpty_iff.mp h)]
  by_cases h : i < 0 ∨ i ≥ src.length
  · rw [if_pos h]
    exact ⟨nofun, fun e => by omega⟩
  · rw [if_neg h]
    exact ⟨fun e => ⟨by omega, Option.some.inj e⟩, fun e => congrArg some e.2⟩

structure Frame (s t : St) : Prop where
  lhs : t.lhs = s.lhs
  src : t.src = s.src
  skip : t.skip = s.skip
  undoing : t.undoing = s.undoing

theorem Frame.moved (s : St) (hp cp : Int) (l : List Nat) (cu : Cur) :
    Frame s { s with hpos := hp, cpos := cp, line := l, cur := cu } := ⟨rfl, rfl, rfl, rfl⟩

theorem Frame.trans {s t u : St} (f : Frame s t) (g : Frame t u) : Frame s u :=
  ⟨g.lhs.trans f.lhs, g.src.trans f.src, g.skip.trans f.skip, g.undoing.trans f.undoing⟩

theorem setLineCursorMatch_frame (s : St) (next : List Nat) : Frame s (setLineCursorMatch s next) := by
  fun_cases setLineCursorMatch s next <;> exact .moved ..

theorem setLineCursorMatch_hpos (s : St) (next : List Nat) : (setLineCursorMatch s next).hpos = s.hpos := by
  fun_cases setLineCursorMatch s next <;> rfl

theorem setLineCursorMatch_line (s : St) (next : List Nat) : (setLineCursorMatch s next).line = next := by
  fun_cases setLineCursorMatch s next <;> rfl

theorem restoreLineBuffer_frame (s : St) : Frame s (restoreLineBuffer s) := by
  fun_cases restoreLineBuffer s <;> exact .moved ..

theorem restoreLineBuffer_hpos (s : St) : (restoreLineBuffer s).hpos = -1 := by
  fun_cases restoreLineBuffer s <;> rfl

theorem restoreLineBuffer_line (s : St) : (restoreLineBuffer s).line =
    ((getLH { s with hpos := -1 } (-1)).items.getLast?.map (·.line)).getD s.line := by
  fun_cases restoreLineBuffer s with
  | case1 _ _ hnone =>
    rw [hnone]
    rfl
  | case2 _ _ _ hsome =>
    rw [hsome]
    rfl

theorem walkTo_clamp (s : St) : (if s.hpos > (s.src.length : Int) then { s with hpos := s.src.length } else s) =
    { s with hpos := min s.hpos s.src.length } := by
  by_cases h : s.hpos > (s.src.length : Int)
  · rw [if_pos h, Int.min_eq_right (by omega)]
  · rw [if_neg h, Int.min_eq_left (by omega)]

theorem walkTo_spec (s : St) : Frame s (walkTo s) ∧
    (walkTo s).hpos = if s.hpos < -1 ∨ s.hpos = 0 then -1 else min s.hpos s.src.length := by
  unfold walkTo
  extract_lets n t
  by_cases h1 : s.hpos < -1
  · rw [if_pos h1, if_pos (.inl h1)]
    exact ⟨.moved .., rfl⟩
  by_cases h2 : s.hpos = 0
  · rw [if_neg h1, if_pos h2, if_pos (.inr h2)]
    exact ⟨restoreLineBuffer_frame s, restoreLineBuffer_hpos s⟩
  rw [if_neg h1, if_neg h2, if_neg (by omega)]
  have ft : Frame s t ∧ t.hpos = min s.hpos s.src.length := by
    unfold t n
    rw [walkTo_clamp s]
    exact ⟨.moved .., rfl⟩
  have set (l : List Nat) :
      Frame s (setLineCursorMatch t l) ∧ (setLineCursorMatch t l).hpos = min s.hpos s.src.length :=
    ⟨ft.1.trans (setLineCursorMatch_frame t l), (setLineCursorMatch_hpos t l).trans ft.2⟩
  cases (getLH t (lineKey t)).items.getLast? with
  | some it => exact set _
  | none =>
    cases getLine t.src (n - t.hpos) with
    | some l => exact set _
    | none => exact ft

theorem walkTo_hpos (s : St) :
    (walkTo s).hpos = if s.hpos < -1 ∨ s.hpos = 0 then -1 else min s.hpos s.src.length := (walkTo_spec s).2

theorem walkTo_zero (s : St) (h0 : s.hpos = 0) : walkTo s = restoreLineBuffer s := by
  unfold walkTo
  rw [if_neg (by omega), if_pos h0]

theorem walkTo_on (s : St) (h1 : 1 ≤ s.hpos) (hne : s.src ≠ []) :
    walkTo s = setLineCursorMatch { s with hpos := min s.hpos s.src.length }
      (((getLH s ((s.src.length : Int) - min s.hpos s.src.length)).items.getLast?.map (·.line)).getD
        (s.src.getD ((s.src.length : Int) - min s.hpos s.src.length).toNat [])) := by
  have hn : 0 < (s.src.length : Int) := Int.natCast_pos.mpr (List.length_pos_iff.mpr hne)
  have m1 : 1 ≤ min s.hpos s.src.length := Int.le_min.mpr ⟨h1, hn⟩
  have m2 : min s.hpos s.src.length ≤ s.src.length := Int.min_le_right _ _
  unfold walkTo
  extract_lets n t
  rw [if_neg (show ¬ s.hpos < -1 by omega), if_neg (show ¬ s.hpos = 0 by omega)]
  unfold t n
  rw [walkTo_clamp s]
  -- from here the clamped position is a variable with its two bounds (`omega` is slow on `min`)
  generalize min s.hpos (s.src.length : Int) = m at m1 m2 ⊢
  rw [lineKey_pos _ (show -1 < m by omega),
    (getLine_eq_some hne (i := (s.src.length : Int) - m)).mpr ⟨by omega, rfl⟩]
  -- `getLH` reads `lhs` only: unfolded, the history looked up is syntactically that of the statement
  dsimp only [getLH]
  cases ((s.lhs.lookup _).getD {}).items.getLast? <;> rfl

theorem leaveMain_cases {s s1 : St} {p : Int} : leaveMain s p = .ok s1 →
    s1 = s ∨ ∃ t, save { s with skip := false } = .ok t ∧ s1 = { t with cpos := -1, hpos := 0 } := by
  fun_cases leaveMain s p with
  | case1 => exact nofun                             -- leaving the typed line, `Save` panics
  | case2 _ t ht => exact fun h => Or.inr ⟨t, ht, (Except.ok.inj h).symm⟩
  | case3 => exact fun h => Or.inl (Except.ok.inj h).symm

theorem walk_cases {s s' : St} {p : Int} : walk s p = .ok s' →
    s' = s ∨ (s.src ≠ [] ∧ ∃ s1, leaveMain s p = .ok s1 ∧ s' = walkTo { s1 with hpos := s1.hpos + p }) := by
  fun_cases walk s p with
  | case1 | case2 | case3 =>                         -- no entries, no move, or up from the oldest entry
    exact fun h => Or.inl (Except.ok.inj h).symm
  | case4 => exact nofun                             -- `leaveMain` panics
  | case5 n hn _ _ s1 h1 =>
    have hne : s.src ≠ [] := fun e => hn (congrArg (fun l : List (List Nat) => (l.length : Int)) e)
    exact fun h => Or.inr ⟨hne, s1, h1, (Except.ok.inj h).symm⟩

theorem matchLoop_sound {src : List (List Nat)} (hne : src ≠ []) {cline : List Nat} {fwd regex : Bool} {f : Nat}
    {p r : Int} (h : matchLoop src cline fwd regex f p = some r) :
    0 ≤ r ∧ r < src.length ∧ lineMatches regex (utf8 (src.getD r.toNat [])) cline = true := by
  fun_induction matchLoop src cline fwd regex f p
  case case1 | case2 | case5 => cases h              -- out of fuel, `GetLine` fails, nothing more to see
  case case3 l hg hm =>
    cases h
    obtain ⟨⟨a, b⟩, rfl⟩ := (getLine_eq_some hne).mp hg
    exact ⟨a, b, hm⟩
  case case4 ih => exact ih h

theorem matchLoop_back_zero (src : List (List Nat)) (cline : List Nat) (regex : Bool) (f : Nat) :
    matchLoop src cline false regex f 0 = none := by
  cases f <;> rfl

theorem insertMatch_frame (s : St) (mline : List Nat) (mpos : Int) (usePos fwd regex : Bool) :
    Frame s (insertMatch s mline mpos usePos fwd regex) := by
  fun_cases insertMatch s mline mpos usePos fwd regex with
  | case2 => exact restoreLineBuffer_frame s
  | case1 | case3 | case4 | case5 => exact .moved ..

/-- `hreach`: where a session can be (on an empty history the position is never on the history) -/
theorem insertMatch_lands (s : St) (mline : List Nat) (mpos : Int) (usePos fwd regex : Bool)
    (hreach : s.src ≠ [] ∨ s.hpos ≤ -1) :
    let t := insertMatch s mline mpos usePos fwd regex
    (t.hpos = -1 ∧ (t.line = s.line ∨ t.line = (restoreLineBuffer s).line)) ∨ (t.hpos = s.hpos ∧ t.line = s.line) ∨
      ∃ r : Int, (0 ≤ r ∧ r < s.src.length) ∧ t.hpos = s.src.length - r ∧ t.line = s.src.getD r.toNat [] ∧
        lineMatches regex (utf8 (s.src.getD r.toNat [])) (searchText mline mpos) = true := by
  fun_cases insertMatch s mline mpos usePos fwd regex with
  | case1 => exact .inl ⟨rfl, .inl rfl⟩                                 -- forward from the typed line
  | case2 => exact .inl ⟨restoreLineBuffer_hpos s, .inr rfl⟩            -- forward, nothing found
  | case3 => exact .inr (.inl ⟨rfl, rfl⟩)                               -- backward, nothing found
  | case4 n _ hfw start p hp | case5 n _ hfw start p hp =>
    have hsrc : s.src ≠ [] := by
      intro hsrc
      have hh : s.hpos ≤ -1 := hreach.resolve_left (· hsrc)
      -- on an empty history a search from the typed line is not forward (`hfw`), and backward it starts at `n = 0`
      have hfwd : fwd = false := Bool.eq_false_iff.mpr fun h => hfw ⟨h, hh⟩
      have hstart : start = 0 := by
        simp only [start, n, hsrc, hfwd, show ¬ s.hpos > -1 by omega, and_false, Bool.false_eq_true, if_false]
        rfl
      rw [hfwd, hstart, matchLoop_back_zero] at hp
      cases hp
    obtain ⟨p0, p1, hm⟩ := matchLoop_sound hsrc hp
    exact .inr (.inr ⟨p, ⟨p0, p1⟩, rfl, rfl, hm⟩)

end RLV.Hist
