/-! Association lists with `String` keys, as `rlv-dump` writes them (Gen/Effects): a lookup by the UTF-8 bytes of the
keys finds what the lookup by the keys finds. The kernel compares two byte lists much faster than it runs `String.decEq`,
and the sweeps of Props/C06 over the regenerated tables are made of such comparisons. -/
namespace RLV

def bytes (s : String) : List UInt8 := s.toByteArray.data.toList

theorem bytes_inj {a b : String} : bytes a = bytes b ↔ a = b := by
  rw [bytes, bytes, Array.toList_inj, ← ByteArray.ext_iff, String.toByteArray_inj]

theorem lookup_bytes {β : Type} (c : String) (t : List (String × β)) :
    t.lookup c = (t.map fun e => (bytes e.1, e.2)).lookup (bytes c) := by
  induction t with
  | nil => rfl
  | cons e t ih =>
    have hk : (bytes c == bytes e.1) = (c == e.1) := by
      rw [Bool.eq_iff_iff, beq_iff_eq, beq_iff_eq, bytes_inj]
    rw [List.map_cons, List.lookup_cons, List.lookup_cons, ih, hk]

end RLV
