import RLV.Model.Esc
/-! The key-sequence notation round-trips (C19) because the image of one rune is framed: whatever text follows
it, `unescF` reads the image as that rune and goes on behind it (`frame`). `escStep` looks up to six runes
ahead into that unknown text, so evaluation alone cannot show it: the images take five forms (`Shape`), each
framed under a decidable side condition, and that every code below 256 has an image of such a form is evaluated. -/
namespace RLV.Esc

theorem unescF_fuel : ∀ (n m : Nat) (r : List Nat), r.length ≤ n → r.length ≤ m → unescF n r = unescF m r
  | n, m, [], _, _ => by cases n <;> cases m <;> rfl
  | n + 1, m + 1, c :: t, h1, h2 => by
    simp only [List.length_cons] at h1 h2
    by_cases hc : c = bs
    · have hd : (t.drop (escStep (c :: t)).2).length ≤ t.length := by
        rw [List.length_drop]
        omega
      simp only [unescF, if_pos hc]
      rw [unescF_fuel n m _ (by omega) (by omega)]
    · simp only [unescF, if_neg hc]
      rw [unescF_fuel n m t (by omega) (by omega)]

/-- The forms an image of `escape1` takes; the rune after the backslash decides how `escStep` reads
the rest (`\C-?` is the form `ctrl 0x3f`). -/
inductive Shape where
  | plain (x : Nat)
  | two (x : Nat)
  | ctrl (x : Nat)
  | meta_ (d : Nat)
  | hex (h1 h2 : Nat)

def render : Shape → List Nat
  | .plain x => [x]
  | .two x => [bs, x]
  | .ctrl x => [bs, 0x43, 0x2d, x]
  | .meta_ d => [bs, 0x4d, 0x2d, d]
  | .hex h1 h2 => [bs, 0x78, h1, h2]

/-- side conditions under which `render sh` reads back as exactly `c`, whatever follows -/
def Shape.readsAs (c : Nat) : Shape → Bool
  | .plain x => x != bs && x == c
  | .two x => [0x61, 0x62, 0x64, 0x65, 0x66, 0x6e, 0x72, 0x74, 0x76, bs, 0x22, 0x27].contains x && simpleEsc x == c
  | .ctrl x => x != bs && (if x = 0x3f then 0x7f else encontrol x) == c
  | .meta_ d => d != bs && d != 0 && enmeta d == c
  | .hex h1 h2 => hexDigit h1 && hexDigit h2 && (hexVal h1 * 16 ||| hexVal h2) == c

theorem frame_three {a b x c : Nat} (n : Nat) (t : List Nat) (hs : escStep (bs :: a :: b :: x :: t) = ([c], 3)) :
    unescF (n + 1) (bs :: a :: b :: x :: t) = c :: unescF n t := by
  rw [unescF, if_pos rfl, hs]
  rfl

theorem frame_shape (c : Nat) (sh : Shape) (h : sh.readsAs c = true) (n : Nat) (t : List Nat) :
    unescF (n + 1) (render sh ++ t) = c :: unescF n t := by
  cases sh <;> simp only [Shape.readsAs, Bool.and_eq_true, bne_iff_ne, beq_iff_eq, List.contains_eq_mem,
    List.mem_cons, List.mem_nil_iff, or_false, decide_eq_true_eq] at h
  case plain x =>
    obtain ⟨h1, rfl⟩ := h
    rw [render, List.singleton_append, unescF, if_neg h1]
  case two x =>
    obtain ⟨hx, rfl⟩ := h
    rcases hx with rfl | rfl | rfl | rfl | rfl | rfl | rfl | rfl | rfl | rfl | rfl | rfl <;> rfl
  case ctrl x =>
    obtain ⟨h1, rfl⟩ := h
    unfold bs at h1
    -- `x ≠ bs` fails the two cases tried before `\C-x` that read on into `t`: `\C-\M-y`, and `\C-` before a simple escape
    refine frame_three n t ?_
    by_cases h2 : x = 0x3f <;> simp [escStep, grab, bs, octDigit, h1, h2]
  case meta_ d =>
    obtain ⟨⟨h1, h2⟩, rfl⟩ := h
    unfold bs at h1
    -- `d ≠ bs`: as for `ctrl` (`\M-\C-y`, `\M-` before a simple escape); `d ≠ 0` is the test inside the case `\M-d`
    refine frame_three n t ?_
    simp [escStep, grab, bs, octDigit, h1, h2]
  case hex h1 h2 =>
    obtain ⟨⟨hh1, hh2⟩, rfl⟩ := h
    -- two digits: the first of the two `\x` cases, which reads nothing behind them
    refine frame_three n t ?_
    simp [escStep, grab, bs, hh1, hh2]

/-- the runes C19 quantifies over -/
def InDom (c : Nat) : Prop := c < 256 ∨ Uni.isPrint c = true

/-- Only evaluated (`image_lo`): that `render` gives the image back is checked there. -/
def shapeOf : List Nat → Shape
  | [_, x] => .two x
  | [_, a, y, x] => if a = 0x43 then .ctrl x else if a = 0x4d then .meta_ x else .hex y x
  | l => .plain (l.headD 0)

theorem image_lo (mac : Bool) : ∀ c, c < 256 →
    escape1 mac c = render (shapeOf (escape1 mac c)) ∧ (shapeOf (escape1 mac c)).readsAs c = true := by
  cases mac <;> decide +kernel

theorem escape1_hi (mac : Bool) (c : Nat) (h : 256 ≤ c) (hp : Uni.isPrint c = true) : escape1 mac c = [c] := by
  have hx : needsHex c = false := by
    simp only [needsHex, Bool.or_eq_false_iff, Bool.and_eq_false_iff, beq_eq_false_iff_ne, decide_eq_false_iff_not]
    omega
  simp only [escape1, bs, hx, hp, or_true, if_true, Bool.false_eq_true, if_false]
  -- each of the twelve conditions left bounds `c` below 256
  iterate 12 rw [if_neg (by omega)]

theorem frame (mac : Bool) (c n : Nat) (t : List Nat) (hd : InDom c) :
    unescF (n + 1) (escape1 mac c ++ t) = c :: unescF n t := by
  by_cases h : c < 256
  · obtain ⟨hr, hok⟩ := image_lo mac c h
    rw [hr]
    exact frame_shape c _ hok n t
  · have hbs : c ≠ bs := by
      unfold bs
      omega
    rw [escape1_hi mac c (by omega) (hd.resolve_left h), List.singleton_append, unescF, if_neg hbs]

theorem escape1_ne_nil (mac : Bool) (c : Nat) (hd : InDom c) : escape1 mac c ≠ [] := by
  intro h
  have hf : unescF 1 (escape1 mac c ++ []) = c :: unescF 0 [] := frame mac c 0 [] hd
  rw [h] at hf
  exact List.cons_ne_nil _ _ hf.symm

theorem escape_cons (mac : Bool) (c : Nat) (t : List Nat) : escape mac (c :: t) = escape1 mac c ++ escape mac t :=
  List.flatMap_cons

theorem unescF_escape (mac : Bool) (s : List Nat) (hs : ∀ c ∈ s, InDom c) :
    ∀ n, (escape mac s).length ≤ n → unescF n (escape mac s) = s := by
  induction s with
  | nil =>
    intro n _
    cases n <;> rfl
  | cons c t ih =>
    intro n hn
    have hc : InDom c := hs c List.mem_cons_self
    have hpos := List.length_pos_iff.mpr (escape1_ne_nil mac c hc)
    rw [escape_cons] at hn ⊢
    rw [List.length_append] at hn
    -- one unit of fuel reads the image of `c`, which is a rune at least: what is left covers the other images
    obtain ⟨m, rfl⟩ : ∃ m, n = m + 1 := ⟨n - 1, by omega⟩
    rw [frame mac c m _ hc, ih (fun d hd => hs d (List.mem_cons_of_mem _ hd)) m (by omega)]

theorem unescape_escape (mac : Bool) (s : List Nat) (hs : ∀ c ∈ s, InDom c) :
    unescape (escape mac s) = s := by
  have h := unescF_escape mac s hs _ (Nat.le_refl _)
  unfold unescape
  split
  next h1 =>
    -- the `len(r) == 1` shortcut returns `r` itself. It differs from the loop on a lone backslash only
    -- (which the loop reads as NUL), and NUL is not written as a lone backslash
    obtain ⟨x, hr⟩ := List.length_eq_one_iff.mp h1
    rw [hr] at h ⊢
    by_cases hx : x = bs
    · subst hx
      have hs0 : s = [0] := h.symm
      subst hs0
      exact absurd hr (by cases mac <;> decide)
    · rw [← h, List.length_singleton, unescF, if_neg hx]
      rfl
  next => exact h

end RLV.Esc
