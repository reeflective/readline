import RLV.Model.HistCalls
import RLV.Lemmas.Undo
import RLV.Lemmas.HistWalk
/-! Walking through the history and accepting lines, over any number of commands and calls: the invariant
that makes the walk show the stored entries (`Inv`), and its preservation by every command. -/
namespace RLV.Hist.Calls
open RLV.Core RLV.Hist

/-- no line is in an undone state -/
def PosZero (s : St) : Prop := ∀ k, (getLH s k).pos = 0
/-- no history line has been edited: the last state saved under an entry's key (`lineKey`: its index) is that entry -/
def Faithful (s : St) : Prop := ∀ k : Int, 0 ≤ k → ∀ it, (getLH s k).items.getLast? = some it →
  k < s.src.length ∧ it.line = s.src.getD k.toNat []
def OnEntry (s : St) : Prop :=
  s.hpos = -1 ∨ (1 ≤ s.hpos ∧ s.hpos ≤ s.src.length ∧ s.line = s.src.getD ((s.src.length : Int) - s.hpos).toNat [])

/-- what holds between the commands of a session that edits no history line: `OnEntry` is the claim of C09, the rest is
what keeps it true across `Save`, `Walk`, the searches and accept-line -/
structure Inv (s : St) : Prop where
  sk : s.skip = false
  und : s.undoing = false
  pz : PosZero s
  fa : Faithful s
  oe : OnEntry s

/-- `Inv` without the position and the buffer: it reads only what a `Frame` keeps -/
structure Stored (s : St) : Prop where
  sk : s.skip = false
  und : s.undoing = false
  pz : PosZero s
  fa : Faithful s

theorem Inv.stored {s : St} (hi : Inv s) : Stored s := ⟨hi.sk, hi.und, hi.pz, hi.fa⟩

theorem Stored.inv {s : St} (h : Stored s) (ho : OnEntry s) : Inv s := ⟨h.sk, h.und, h.pz, h.fa, ho⟩

/-- `leaveMain` and `searchLine` call `Save` on `{ s with skip := false }`: between commands that is `s` -/
theorem Inv.unskip {s : St} (hi : Inv s) : Inv { s with skip := false } := by
  rw [← hi.sk]
  exact hi

theorem Stored.frame {s t : St} (h : Stored s) (f : Frame s t) : Stored t := by
  cases t
  obtain ⟨rfl, rfl, rfl, rfl⟩ := f
  exact ⟨h.sk, h.und, h.pz, h.fa⟩

/-- `Reset` and `Save` end by clearing the two flags -/
theorem Stored.cleared {s : St} (h : Stored s) : Stored { s with skip := false, undoing := false } :=
  h.frame ⟨rfl, rfl, h.sk.symm, h.und.symm⟩

theorem Stored.setLH {s : St} (st : Stored s) {k : Int} {h : LH} (hp : h.pos = 0)
    (hf : 0 ≤ k → ∀ it, h.items.getLast? = some it → k < s.src.length ∧ it.line = s.src.getD k.toNat []) :
    Stored (setLH s k h) := by
  refine ⟨st.sk, st.und, fun k' => ?_, fun k' hk' it hit => ?_⟩
  · rw [getLH_setLH]
    by_cases e : k' = k
    · rw [if_pos e]
      exact hp
    · rw [if_neg e]
      exact st.pz k'
  · rw [getLH_setLH] at hit
    by_cases e : k' = k
    · subst e
      rw [if_pos rfl] at hit
      exact hf hk' it hit
    · rw [if_neg e] at hit
      exact st.fa k' hk' it hit

theorem reset_stored {s : St} (h : Stored s) : Stored (reset s) := by
  rw [reset_eq, h.und]
  exact (h.setLH (h := { getLH s (lineKey s) with pos := 0 }) rfl fun hk => h.fa _ hk).cleared

/-- of the commands that leave the entries alone: all but accept-line -/
def Keeps (f : St → G St) : Prop := ∀ s s', Inv s → f s = .ok s' → Inv s' ∧ s'.src = s.src

theorem Keeps.bind {f g : St → G St} (hf : Keeps f) (hg : Keeps g) : Keeps (fun s => f s >>= g) := by
  intro s s' hi h
  obtain ⟨s1, h1, h2⟩ := bind_ok h
  obtain ⟨i1, e1⟩ := hf s s1 hi h1
  obtain ⟨i2, e2⟩ := hg s1 s' i1 h2
  exact ⟨i2, e2.trans e1⟩

theorem save_keeps : Keeps save := by
  intro s s' hi h
  obtain ⟨h', rfl, h0, _, hl⟩ := save_one_write h
  refine ⟨(hi.stored.setLH (h0 hi.und) fun hk it hit => ?_).cleared.inv hi.oe, rfl⟩
  -- the history of the current line now ends in the buffer: on the history that is the entry itself (`OnEntry`)
  obtain ⟨it', e, el⟩ := hl hi.sk
  rw [e] at hit
  cases hit
  rcases hi.oe with o | ⟨o1, o2, o3⟩
  · rw [lineKey_neg s o] at hk
    omega
  · rw [lineKey_pos s (by omega)]
    exact ⟨by omega, el.trans o3⟩

theorem walkTo_onEntry (s : St) (hf : Faithful s) (hne : s.src ≠ []) : OnEntry (walkTo s) := by
  have hn : 0 < (s.src.length : Int) := Int.natCast_pos.mpr (List.length_pos_iff.mpr hne)
  unfold OnEntry
  rw [walkTo_hpos, (walkTo_spec s).1.src]
  by_cases h1 : 1 ≤ s.hpos
  · rw [if_neg (by omega), walkTo_on s h1 hne, setLineCursorMatch_line]
    have m2 : min s.hpos s.src.length ≤ s.src.length := Int.min_le_right _ _
    refine Or.inr ⟨Int.le_min.mpr ⟨h1, hn⟩, m2, ?_⟩
    cases hl : (getLH s ((s.src.length : Int) - min s.hpos s.src.length)).items.getLast? with
    | none => rfl
    | some it =>
      -- the line as it was left there is the entry itself (`Faithful`)
      exact (hf _ (Int.sub_nonneg.mpr m2) it hl).2
  · left
    by_cases h0 : s.hpos < -1 ∨ s.hpos = 0
    · rw [if_pos h0]
    · rw [if_neg h0, show s.hpos = -1 by omega]
      exact Int.min_eq_left (by omega)

theorem walk_keeps (p : Int) : Keeps (walk · p) := by
  intro s s' hi h
  rcases walk_cases h with rfl | ⟨hne, s1, h1, rfl⟩
  · exact ⟨hi, rfl⟩
  obtain ⟨st, e1⟩ : Stored s1 ∧ s1.src = s.src := by
    rcases leaveMain_cases h1 with rfl | ⟨t, ht, rfl⟩
    · exact ⟨hi.stored, rfl⟩
    · obtain ⟨it, et⟩ := save_keeps _ t hi.unskip ht
      exact ⟨it.stored.frame (.moved ..), et⟩
  have st' : Stored { s1 with hpos := s1.hpos + p } := st.frame (.moved ..)
  have f := (walkTo_spec { s1 with hpos := s1.hpos + p }).1
  exact ⟨(st'.frame f).inv (walkTo_onEntry _ st'.fa fun e => hne (e1.symm.trans e)), f.src.trans e1⟩

theorem typeChar_frame {s s' : St} {c : Nat} (h : typeChar s c = .ok s') : Frame s s' ∧ s'.hpos = s.hpos := by
  unfold typeChar at h
  obtain ⟨l, _, h⟩ := bind_ok h
  cases h
  exact ⟨.moved .., rfl⟩

theorem writeOne_cases {m : Int} {src : List (List Nat)} {l : List Nat} {x : List (List Nat)} {b : Bool} :
    writeOne m src l = .ok (x, b) → x = src ∨ x = src ++ [l] := by
  fun_cases writeOne m src l with
  | case1 | case2 =>                                 -- the source is full; the line repeats the newest entry
    intro h
    cases h
    exact Or.inl rfl
  | case3 | case4 =>                                 -- it does not; `GetLine` fails
    intro h
    cases h
    exact Or.inr rfl

/-- the keys are indices from the oldest entry: they do not move when the source grows at its end -/
theorem Stored.grow {s : St} (h : Stored s) (more : List (List Nat)) : Stored { s with src := s.src ++ more } := by
  refine ⟨h.sk, h.und, h.pz, fun k hk it hit => ?_⟩
  obtain ⟨a, b⟩ := h.fa k hk it hit
  show k < ((s.src ++ more).length : Int) ∧ it.line = (s.src ++ more).getD k.toNat []
  rw [List.getD_eq_getElem?_getD, List.getElem?_append_left (by omega), ← List.getD_eq_getElem?_getD]
  refine ⟨?_, b⟩
  rw [List.length_append]
  omega

theorem exists_append_of_or {α : Type} {a b : List α} {x : α} (h : a = b ∨ a = b ++ [x]) : ∃ more, a = b ++ more :=
  h.elim (fun e => ⟨[], e.trans (List.append_nil b).symm⟩) (fun e => ⟨_, e⟩)

theorem accept_inv (m : Int) (s s' : St) (hi : Inv s) (h : acceptAndNextCall m s = .ok s') :
    Inv s' ∧ (s'.src = s.src ∨ s'.src = s.src ++ [s.line]) := by
  unfold acceptAndNextCall at h
  obtain ⟨src', hsrc, h⟩ := bind_ok h
  have hs : src' = s.src ∨ src' = s.src ++ [s.line] := by
    by_cases hb : trim s.line = []
    · rw [if_pos hb] at hsrc
      cases hsrc
      exact Or.inl rfl
    · rw [if_neg hb] at hsrc
      obtain ⟨⟨x, b⟩, hv, hsrc⟩ := bind_ok hsrc
      cases hsrc
      exact writeOne_cases hv
  obtain ⟨more, rfl⟩ := exists_append_of_or hs
  extract_lets s1 s2 s3 s4 at h
  have st1 : Stored s1 := reset_stored (hi.stored.grow more)
  have st3 : Stored s3 := reset_stored (st1.frame (.moved ..))
  -- `history.Init` empties the history of the typed line: the key −1 is no entry's
  have st4 : Stored s4 := (st3.frame (.moved ..)).setLH rfl fun hk => by omega
  obtain ⟨i, e⟩ := save_keeps s4 s' (st4.inv (.inl rfl)) h
  have e4 : s4.src = s.src ++ more := (reset_src s2).trans (reset_src _)
  rw [← e4, ← e] at hs
  exact ⟨i, hs⟩

theorem insertMatch_inv (s : St) (ml : List Nat) (mp : Int) (usePos fwd regex : Bool) (hi : Inv s) :
    Inv (insertMatch s ml mp usePos fwd regex) ∧ (insertMatch s ml mp usePos fwd regex).src = s.src := by
  have f := insertMatch_frame s ml mp usePos fwd regex
  have hreach : s.src ≠ [] ∨ s.hpos ≤ -1 := by
    rcases hi.oe with o | ⟨o1, o2, _⟩
    · exact Or.inr (by omega)
    · exact Or.inl (List.ne_nil_of_length_pos (by omega))
  refine ⟨(hi.stored.frame f).inv ?_, f.src⟩
  unfold OnEntry
  rw [f.src]
  rcases insertMatch_lands s ml mp usePos fwd regex hreach with ⟨h, _⟩ | ⟨h, l⟩ | ⟨r, ⟨r0, r1⟩, h, l, _⟩
  · exact .inl h
  · rw [h, l]
    exact hi.oe
  · rw [h, l, show (s.src.length : Int) - ((s.src.length : Int) - r) = r by omega]
    exact .inr ⟨by omega, by omega, rfl⟩

theorem searchLine_inv (s t : St) (ml : List Nat) (mp : Int) (hi : Inv s) (h : searchLine s = .ok (t, ml, mp)) :
    Inv t ∧ t.src = s.src := by
  unfold searchLine at h
  obtain ⟨u, hu, h⟩ := bind_ok h
  obtain rfl : u = t := by
    split at h <;> exact congrArg Prod.fst (Except.ok.inj h)
  by_cases hp : s.hpos = -1
  · rw [if_pos hp] at hu
    obtain ⟨t1, h1, hu⟩ := bind_ok hu
    cases hu
    obtain ⟨i1, e1⟩ := save_keeps _ t1 hi.unskip h1
    rw [hi.sk]
    exact ⟨i1.unskip, e1⟩
  · rw [if_neg hp] at hu
    cases hu
    exact ⟨hi, rfl⟩

theorem search_keeps (fwd regex : Bool) : Keeps (searchCmd · fwd regex) := by
  intro s s' hi h
  unfold searchCmd at h
  obtain ⟨s1, h1, h⟩ := bind_ok h
  obtain ⟨⟨s2, ml, mp⟩, h2, h⟩ := bind_ok h
  cases h
  obtain ⟨i1, e1⟩ := save_keeps s s1 hi h1
  obtain ⟨i2, e2⟩ := searchLine_inv s1 s2 ml mp i1 h2
  obtain ⟨i3, e3⟩ := insertMatch_inv s2 ml mp true fwd regex i2
  exact ⟨i3, by rw [e3, e2, e1]⟩

/-- of every command: the entries stay, and accept-line may add some at the end -/
def Grows (f : St → G St) : Prop := ∀ s s', Inv s → f s = .ok s' → Inv s' ∧ ∃ more, s'.src = s.src ++ more

theorem Keeps.grows {f : St → G St} (hf : Keeps f) : Grows f :=
  fun s s' hi h => ⟨(hf s s' hi h).1, [], by rw [(hf s s' hi h).2, List.append_nil]⟩

theorem Grows.bind {f g : St → G St} (hf : Grows f) (hg : Grows g) : Grows (fun s => f s >>= g) := by
  intro s s' hi h
  obtain ⟨s1, h1, h2⟩ := bind_ok h
  obtain ⟨i1, m1, e1⟩ := hf s s1 hi h1
  obtain ⟨i2, m2, e2⟩ := hg s1 s' i1 h2
  exact ⟨i2, m1 ++ m2, by rw [e2, e1, List.append_assoc]⟩

theorem type_keeps (m : Int) (c : Nat) : Keeps (stepUnedited m · (.type c)) := by
  intro s s' hi h
  dsimp only [stepUnedited] at h
  split at h
  next => cases h
  next h0 =>
    obtain ⟨s1, h1, h⟩ := bind_ok h
    obtain ⟨f, e⟩ := typeChar_frame h1
    have i1 : Inv s1 := (hi.stored.frame f).inv (.inl (e.trans (Decidable.not_not.mp h0)))
    obtain ⟨i2, e2⟩ := save_keeps s1 s' i1 h
    exact ⟨i2, e2.trans f.src⟩

theorem step_grows (m : Int) (op : HOp) : Grows (stepUnedited m · op) := by
  cases op with
  | up => exact (save_keeps.bind ((walk_keeps 1).bind save_keeps)).grows
  | down => exact (save_keeps.bind ((walk_keeps (-1)).bind save_keeps)).grows
  | search fwd regex => exact ((search_keeps fwd regex).bind save_keeps).grows
  | type c => exact (type_keeps m c).grows
  | accept =>
    have ha : Grows (acceptAndNextCall m) := fun s s' hi h => (accept_inv m s s' hi h).imp_right exists_append_of_or
    exact ha.bind save_keeps.grows

theorem step_inv (m : Int) (s s' : St) (op : HOp) (hi : Inv s) (h : stepUnedited m s op = .ok s') :
    Inv s' ∧ ∃ more, s'.src = s.src ++ more :=
  step_grows m op s s' hi h

theorem run_grows (m : Int) : ∀ ops : List HOp, Grows (runUnedited m · ops)
  | [] => fun s s' hi h => by
    cases h
    exact ⟨hi, [], (List.append_nil _).symm⟩
  | op :: ops => (step_grows m op).bind (run_grows m ops)

theorem inv_init (src : List (List Nat)) : Inv { src := src } :=
  ⟨rfl, rfl, fun _ => rfl, fun _ _ _ hit => (nomatch hit), Or.inl rfl⟩

-- `Save` between commands as one conjunction of field equations; the proofs above read `save_one_write` instead

theorem setLH_fields (s : St) (k : Int) (h : LH) :
    (setLH s k h).line = s.line ∧ (setLH s k h).cur = s.cur ∧ (setLH s k h).src = s.src ∧
    (setLH s k h).hpos = s.hpos ∧ (setLH s k h).cpos = s.cpos ∧ (setLH s k h).skip = s.skip ∧
    (setLH s k h).undoing = s.undoing ∧ (setLH s k h).preservePoint = s.preservePoint :=
  ⟨rfl, rfl, rfl, rfl, rfl, rfl, rfl, rfl⟩

theorem lineKey_congr (s t : St) (h1 : t.hpos = s.hpos) (h2 : t.src = s.src) : lineKey t = lineKey s := by
  unfold lineKey
  rw [h1, h2]

def SaveOut (s s' : St) : Prop :=
    s'.line = s.line ∧ s'.cur = s.cur ∧ s'.src = s.src ∧ s'.hpos = s.hpos ∧ s'.cpos = s.cpos ∧
    s'.skip = false ∧ s'.undoing = false ∧ s'.preservePoint = s.preservePoint ∧
    (∀ k', k' ≠ lineKey s → getLH s' k' = getLH s k') ∧
    (getLH s' (lineKey s)).pos = 0 ∧
    (∃ it, (getLH s' (lineKey s)).items.getLast? = some it ∧ it.line = s.line)

theorem save_spec (s s' : St) (hs : s.skip = false) (hu : s.undoing = false) (hp : PosZero s)
    (h : save s = .ok s') : SaveOut s s' := by
  obtain ⟨h', rfl, h0, _, hl⟩ := save_one_write h
  have hk : ∀ k', getLH { setLH s (lineKey s) h' with skip := false, undoing := false } k' =
      if k' = lineKey s then h' else getLH s k' := getLH_setLH s _ h'
  refine ⟨rfl, rfl, rfl, rfl, rfl, rfl, rfl, rfl, fun k' hk' => ?_, ?_, ?_⟩
  · rw [hk, if_neg hk']
  · rw [hk, if_pos rfl]
    exact h0 hu
  · rw [hk, if_pos rfl]
    exact hl hs

end RLV.Hist.Calls
