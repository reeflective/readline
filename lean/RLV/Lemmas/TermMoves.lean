import RLV.Model.TermRun
import RLV.Lemmas.TermLin
/-! Token lists that only move the cursor (`Moves`), a rule per such token but `hide`. The display engine's relative
moves print nothing for a count below one (`term.MoveCursor*`: `Disp.mv`). -/
namespace RLV.Term
open RLV.Disp

theorem run_append (t : Term) (a b : List Tk) : t.run (a ++ b) = (t.run a).run b := by
  unfold run
  rw [List.foldl_append]

/-- the engine writes no empty string; printing one changes nothing anyway -/
theorem run_text (t : Term) (s : List Nat) : t.run (if s.isEmpty then [] else [.text s]) = t.puts s := by
  cases s <;> rfl

theorem mv_nat (f : Nat → Tk) (n : Nat) : mv f (n : Int) = if n = 0 then [] else [f n] := by
  unfold mv
  by_cases h : n = 0
  · subst h
    rfl
  · rw [if_neg h, if_neg (by omega), Int.toNat_natCast]

/-- where the cursor is; nothing is said of a pending wrap -/
structure Pos (t : Term) (width col row : Nat) : Prop where
  w : t.w = width
  x : t.x = col
  y : t.y = row

/-- `q` takes the cursor from `p` to `p'` (column, row), wrap pending or not, rewrites no cell and raises no wrap -/
def Moves (w : Nat) (q : List Tk) (p p' : Nat × Nat) : Prop :=
  ∀ t : Term, Pos t w p.1 p.2 →
    Pos (t.run q) w p'.1 p'.2 ∧ (t.run q).lin = t.lin ∧ (t.pw = false → (t.run q).pw = false)

variable {w x y x' y' : Nat} {p p1 p2 : Nat × Nat} {a b q : List Tk}

theorem Pos.moves {t : Term} (h : Pos t w x y) (m : Moves w q (x, y) (x', y')) :
    Pos (t.run q) w x' y' ∧ (t.run q).lin = t.lin :=
  ⟨(m t h).1, (m t h).2.1⟩

theorem Moves.nil : Moves w [] p p :=
  fun _ h => ⟨h, rfl, id⟩

theorem Moves.append (h1 : Moves w a p p1) (h2 : Moves w b p1 p2) : Moves w (a ++ b) p p2 := by
  intro t h
  obtain ⟨c1, l1, w1⟩ := h1 t h
  obtain ⟨c2, l2, w2⟩ := h2 _ c1
  rw [run_append]
  exact ⟨c2, l2.trans l1, fun hp => w2 (w1 hp)⟩

theorem Moves.to {x1 y1 x2 y2 : Nat} (h : Moves w q p (x1, y1)) (ex : x1 = x2) (ey : y1 = y2) :
    Moves w q p (x2, y2) :=
  ex ▸ ey ▸ h

theorem Moves.dsr : Moves w [.dsr] p p :=
  fun _ h => ⟨h, rfl, id⟩

theorem Moves.show_ : Moves w [.show_] p p :=
  fun _ h => ⟨h, rfl, id⟩

theorem Moves.crlf : Moves w [.crlf] (x, y) (0, y + 1) :=
  fun _ h => ⟨⟨h.w, rfl, congrArg (· + 1) h.y⟩, rfl, fun _ => rfl⟩

/-- `h0`: a count below one writes nothing, and then `n.toNat = 0`: right when the move by 0 stays where it is -/
theorem Moves.mv {f : Nat → Tk} {g : Nat → Nat × Nat} (n : Int) (h0 : g 0 = p) (h : ∀ k, Moves w [f k] p (g k)) :
    Moves w (Disp.mv f n) p (g n.toNat) := by
  unfold Disp.mv
  split
  next hn =>
    rw [Int.toNat_of_nonpos (by omega), h0]
    exact .nil
  next => exact h _

/-- The counts are natural numbers (`(↑n).toNat` is `n` by computation) but for one `CUU` of the redisplay, whose
count is a difference of integers. -/
theorem Moves.cuuI (n : Int) : Moves w (Disp.mv .cuu n) (x, y) (x, y - n.toNat) :=
  .mv (g := fun k => (x, y - k)) n rfl fun k _ h => ⟨⟨h.w, h.x, congrArg (· - k) h.y⟩, rfl, fun _ => rfl⟩

theorem Moves.cuu (n : Nat) : Moves w (Disp.mv .cuu n) (x, y) (x, y - n) :=
  .cuuI n

theorem Moves.cud (n : Nat) : Moves w (Disp.mv .cud n) (x, y) (x, y + n) :=
  .mv (g := fun k => (x, y + k)) n rfl fun k _ h => ⟨⟨h.w, h.x, congrArg (· + k) h.y⟩, rfl, fun _ => rfl⟩

theorem Moves.cub (n : Nat) : Moves w (Disp.mv .cub n) (x, y) (x - n, y) :=
  .mv (g := fun k => (x - k, y)) n rfl fun k _ h => ⟨⟨h.w, congrArg (· - k) h.x, h.y⟩, rfl, fun _ => rfl⟩

/-- `hx` is for the move by 0, which is not written -/
theorem Moves.cuf (n : Nat) (hx : x < w) : Moves w (Disp.mv .cuf n) (x, y) (min (x + n) (w - 1), y) := by
  have h0 : (min (x + 0) (w - 1), y) = (x, y) := Prod.ext (Nat.min_eq_left (by omega)) rfl
  refine .mv (g := fun k => (min (x + k) (w - 1), y)) n h0 fun k t h => ⟨⟨h.w, ?_, h.y⟩, rfl, fun _ => rfl⟩
  show min (t.x + k) (t.w - 1) = _
  rw [h.x, h.w]

/-! `quietL` is the model's own test for token lists that change no cell; the proofs go by `Moves`, which also says
where the cursor ends. -/

theorem quietL_nil : quietL [] = true := rfl
theorem quietL_cons (k : Tk) (q : List Tk) : quietL (k :: q) = (isQuiet k && quietL q) := List.all_cons
theorem quietL_append (a b : List Tk) : quietL (a ++ b) = (quietL a && quietL b) := List.all_append
theorem quietL_mv (f : Nat → Tk) (n : Int) : quietL (mv f n) = (decide (n < 1) || isQuiet (f n.toNat)) := by
  unfold mv
  by_cases h : n < 1
  · rw [if_pos h, decide_eq_true h]
    rfl
  · rw [if_neg h, decide_eq_false h, quietL_cons, quietL_nil, Bool.and_true]
    rfl
theorem quietL_show : quietL [.show_] = true := rfl
theorem quietL_dsr : quietL [.dsr] = true := rfl
theorem quietL_crlf : quietL [.crlf] = true := rfl

end RLV.Term
