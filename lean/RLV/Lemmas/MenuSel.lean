import RLV.Model.MenuSel
import RLV.Lemmas.G
/-! One move of the selector of a plain group from a cell of the grid, forwards and backwards: which
stages of `move` fire. Nothing about the shape of the grid is needed here. -/
namespace RLV.Menu2
open RLV.Core

/-- the selector is on a cell of the grid -/
def Valid (s : Sel) : Prop := 0 ≤ s.x ∧ 0 ≤ s.y ∧ s.y < s.R ∧ s.x < s.rows s.y.toNat

theorem rowLen_eq {s : Sel} {y : Int} (h0 : 0 ≤ y) (h1 : y < s.R) :
    rowLen s y = .ok (s.rows y.toNat : Int) := by
  rw [rowLen, if_neg (by omega), pure_eq]

/-- `hs`: not the `(-1, -1)` of a group never used -/
theorem st0_eq {s : Sel} (hs : ¬ (s.x = -1 ∧ s.y = -1)) (d : Int) : st0 s d 0 = { s with x := s.x + d } := by
  simp only [st0, hs, if_false, Int.add_zero]

theorem move_fwd (s : Sel) (hx : 0 ≤ s.x) (hy : 0 ≤ s.y) (hyR : s.y < s.R)
    (hcell : s.x < s.rows s.y.toNat) :
    move s 1 0 = .ok
      (if s.x + 1 < s.rows s.y.toNat then ({ s with x := s.x + 1 }, false, false)
       else if s.y + 1 < s.R then ({ s with x := 0, y := s.y + 1 }, false, false)
       else ({ s with x := 0 }, true, true)) := by
  have e0 : st0 s 1 0 = { s with x := s.x + 1 } := st0_eq (by omega) 1
  -- `h1`–`h3` decide the tests of stages 1–3: only the last stage (column overflow) can fire
  have h1 : ¬ (s.x + 1 < 0) := by omega
  have h2 : ¬ (s.y < 0) := by omega
  have h3 : ¬ (s.y > (s.R : Int) - 1) := by omega
  simp only [move, e0, andThen, st1, st2, st3, st4, rowLen_eq, hy, hyR, h1, h2, h3, if_false, ok_bind, pure_eq]
  by_cases h4 : s.x + 1 < s.rows s.y.toNat
  · have h4' : ¬ (s.x + 1 > (s.rows s.y.toNat : Int) - 1) := by omega
    simp only [h4, h4', if_true, if_false, ok_bind]
  · have h4' : s.x + 1 > (s.rows s.y.toNat : Int) - 1 := by omega
    by_cases h5 : s.y + 1 < s.R
    · have h5' : s.y < (s.R : Int) - 1 := by omega
      simp only [h4, h4', h5, h5', if_true, if_false, ok_bind]
    · have h5' : ¬ (s.y < (s.R : Int) - 1) := by omega
      simp only [h4, h4', h5, h5', if_true, if_false, ok_bind]

theorem move_bwd (s : Sel) (hv : Valid s) :
    move s (-1) 0 = .ok
      (if 0 < s.x then ({ s with x := s.x - 1 }, false, false)
       else if 0 < s.y then ({ s with y := s.y - 1, x := (s.rows (s.y - 1).toNat : Int) - 1 }, false, false)
       else ({ s with x := 0, y := 0 }, true, false)) := by
  obtain ⟨hx, hy, hyR, hcell⟩ := hv
  have e0 : st0 s (-1) 0 = { s with x := s.x - 1 } := st0_eq (by omega) (-1)
  have hrev : decide ((-1 : Int) < 0 ∨ (0 : Int) < 0) = true := by decide
  simp only [move, e0, hrev, andThen, st1, st2, st3, st4, pure_eq]
  by_cases hx0 : 0 < s.x
  · -- no stage fires (`h1`–`h4`: the tests of stages 1–4)
    have h1 : ¬ (s.x - 1 < 0) := by omega
    have h2 : ¬ (s.y < 0) := by omega
    have h3 : ¬ (s.y > (s.R : Int) - 1) := by omega
    have h4 : ¬ (s.x - 1 > (s.rows s.y.toNat : Int) - 1) := by omega
    simp only [hx0, h1, h2, h3, rowLen_eq, hy, hyR, h4, if_true, if_false, ok_bind]
  · have h1 : s.x - 1 < 0 := by omega
    by_cases hy0 : 0 < s.y
    · -- column underflow: the last cell of the row above, where no later stage fires
      have h0 : ¬ (s.y = 0) := by omega
      have hy1 : 0 ≤ s.y - 1 := by omega
      have hyR1 : s.y - 1 < s.R := by omega
      have h2 : ¬ (s.y - 1 < 0) := by omega
      have h3 : ¬ (s.y - 1 > (s.R : Int) - 1) := by omega
      have h4 : ¬ ((s.rows (s.y - 1).toNat : Int) - 1 > (s.rows (s.y - 1).toNat : Int) - 1) := by omega
      simp only [hx0, hy0, h0, h1, h2, h3, rowLen_eq, hy1, hyR1, h4, false_and, if_true, if_false, ok_bind]
    · -- column underflow in the first row, going backwards: done
      have h0 : s.y = 0 := by omega
      simp only [hx0, h0, h1, and_self, Int.lt_irrefl, if_true, if_false, ok_bind]

end RLV.Menu2
