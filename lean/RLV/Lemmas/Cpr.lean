import RLV.Model.Cpr
/-! Keys around a cursor position report are kept (C05): `extract` on keys without ESC, and on a report at the head. -/
namespace RLV.Cpr

theorem digits_append (d : List Nat) (x : Nat) (t : List Nat) (hd : ∀ y ∈ d, isDigit y = true)
    (hx : isDigit x = false) : digits (d ++ x :: t) = (d, x :: t) := by
  induction d with
  | nil => rw [List.nil_append, digits, if_neg (hx ▸ Bool.false_ne_true)]
  | cons y d ih =>
    rw [List.cons_append, digits, if_pos (hd y List.mem_cons_self), ih fun z hz => hd z (List.mem_cons_of_mem _ hz)]

/-- the report `ESC [ d1 ; d2 R` -/
def report (d1 d2 : List Nat) : List Nat := [0x1b, 0x5b] ++ d1 ++ [0x3b] ++ d2 ++ [0x52]

theorem reportAt_report (d1 d2 b : List Nat) (h1 : d1 ≠ []) (h2 : d2 ≠ [])
    (hd1 : ∀ x ∈ d1, isDigit x = true) (hd2 : ∀ x ∈ d2, isDigit x = true) :
    reportAt (report d1 d2 ++ b) = some (report d1 d2).length := by
  have hshape : report d1 d2 ++ b = 0x1b :: 0x5b :: (d1 ++ 0x3b :: (d2 ++ 0x52 :: b)) := by
    simp only [report, List.append_assoc, List.cons_append, List.nil_append]
  rw [hshape]
  simp only [reportAt, digits_append d1 0x3b _ hd1 rfl, digits_append d2 0x52 _ hd2 rfl,
    List.isEmpty_eq_false_iff.mpr h1, List.isEmpty_eq_false_iff.mpr h2, report, List.length_append, List.length_cons,
    List.length_nil, Bool.false_eq_true, if_false]

theorem reportAt_noesc (x : Nat) (t : List Nat) (h : x ≠ 0x1b) : reportAt (x :: t) = none := by
  unfold reportAt
  split
  next heq =>
    cases heq
    exact absurd rfl h
  next => rfl

theorem extract_nil (f : Nat) : extract f [] = (none, []) := by
  cases f <;> rfl

theorem extract_noesc_append (a l : List Nat) (f : Nat) (ha : ∀ x ∈ a, x ≠ 0x1b) :
    extract (a.length + f) (a ++ l) = ((extract f l).1, a ++ (extract f l).2) := by
  induction a with
  | nil =>
    rw [List.length_nil, Nat.zero_add]
    rfl
  | cons x t ih =>
    rw [List.length_cons, Nat.add_right_comm]
    simp only [List.cons_append, extract, reportAt_noesc x _ (ha x List.mem_cons_self),
      ih fun y hy => ha y (List.mem_cons_of_mem _ hy)]

theorem extract_noesc (b : List Nat) (f : Nat) (hb : ∀ x ∈ b, x ≠ 0x1b) : extract (b.length + f) b = (none, b) := by
  simpa only [List.append_nil, extract_nil] using extract_noesc_append b [] f hb

theorem extract_report (d1 d2 b : List Nat) (f : Nat) (h1 : d1 ≠ []) (h2 : d2 ≠ [])
    (hd1 : ∀ x ∈ d1, isDigit x = true) (hd2 : ∀ x ∈ d2, isDigit x = true) :
    extract (f + 1) (report d1 d2 ++ b) =
      ((match (extract f b).1 with | some c => some c | none => some (report d1 d2)), (extract f b).2) := by
  have hr := reportAt_report d1 d2 b h1 h2 hd1 hd2
  -- as an opaque `x :: t` the report takes the third equation of `extract` without being unfolded by `simp`
  obtain ⟨x, t, hxt⟩ : ∃ x t, report d1 d2 ++ b = x :: t := ⟨0x1b, _, rfl⟩
  rw [hxt] at hr ⊢
  simp only [extract, hr]
  rw [← hxt, List.drop_left, List.take_left]
  rfl

theorem keys_around_a_report_are_kept (a b d1 d2 : List Nat)
    (ha : ∀ x ∈ a, x ≠ 0x1b) (hb : ∀ x ∈ b, x ≠ 0x1b) (h1 : d1 ≠ []) (h2 : d2 ≠ [])
    (hd1 : ∀ x ∈ d1, isDigit x = true) (hd2 : ∀ x ∈ d2, isDigit x = true) :
    ∀ f, (a ++ report d1 d2 ++ b).length < f →
      extract f (a ++ report d1 d2 ++ b) = (some (report d1 d2), a ++ b) := by
  intro f hf
  simp only [List.length_append] at hf
  obtain ⟨k, rfl⟩ : ∃ k, f = a.length + (b.length + k + 1) := ⟨f - a.length - b.length - 1, by omega⟩
  rw [List.append_assoc, extract_noesc_append a _ _ ha, extract_report d1 d2 b _ h1 h2 hd1 hd2,
    extract_noesc b k hb]

end RLV.Cpr
