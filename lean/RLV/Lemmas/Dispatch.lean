import RLV.Model.Bind
/-! The list-level dispatcher `dispatch` (Model/Bind.lean), for every table and whatever `prefixed` and `active` bind an
earlier dispatch left behind: the clauses of C03, and what a dispatch does to the keys it is given (C01, C05).
The cases of `dispatch` in the inductions below: 1 no key left; on a key `k` after `read`: 2 nothing matches or extends
`read ++ [k]`, 3 binds extend it and the walk goes on (`ih`), 4 the bind that matches it is selected. -/
namespace RLV

theorem matchBind_eq (keys : Seq) (tbl : List (Seq × Bind)) :
    matchBind keys tbl = (lastExact keys tbl, hasProperExt keys tbl) := by
  unfold matchBind lastExact hasProperExt
  suffices h : ∀ (b : Bind) (p : Bool),
      tbl.foldl (fun acc e =>
        (if keys = e.1 then e.2 else acc.1,
         acc.2 || (decide (keys.length < e.1.length) && keys.isPrefixOf e.1))) (b, p)
      = (tbl.foldl (fun acc e => if keys = e.1 then e.2 else acc) b,
         p || tbl.any (fun e => decide (keys.length < e.1.length) && keys.isPrefixOf e.1)) by
    rw [h, Bool.false_or]
  induction tbl with
  | nil =>
    intro b p
    rw [List.foldl_nil, List.foldl_nil, List.any_nil, Bool.or_false]
  | cons e t ih =>
    intro b p
    rw [List.foldl_cons, List.foldl_cons, List.any_cons, ih, Bool.or_assoc]

theorem hasProperExt_iff {ks : Seq} {tbl : List (Seq × Bind)} :
    hasProperExt ks tbl = true ↔ ∃ e ∈ tbl, ∃ suf, suf ≠ [] ∧ e.1 = ks ++ suf := by
  simp only [hasProperExt, List.any_eq_true, Bool.and_eq_true, decide_eq_true_eq, List.isPrefixOf_iff_prefix]
  constructor
  · rintro ⟨e, he, hl, suf, hs⟩
    exact ⟨e, he, suf, fun h0 => by rw [← hs, h0, List.append_nil] at hl; exact Nat.lt_irrefl _ hl, hs.symm⟩
  · rintro ⟨e, he, suf, hs, heq⟩
    have hpos := List.length_pos_iff.mpr hs
    have hlen : ks.length < e.1.length := by
      rw [heq, List.length_append]
      omega
    exact ⟨e, he, hlen, suf, heq.symm⟩

/-- on the fold that `lastExact ks tbl` unfolds to (at `acc = Bind.none`) -/
theorem Loop.lastExact_of_all (ks : Seq) (bd : Bind) (tbl : List (Seq × Bind)) :
    ∀ acc, (∀ e ∈ tbl, e.1 = ks → e.2 = bd) → ((∃ e ∈ tbl, e.1 = ks) ∨ acc = bd) →
      tbl.foldl (fun acc e => if ks = e.1 then e.2 else acc) acc = bd := by
  induction tbl with
  | nil =>
    rintro acc - (⟨_, he, _⟩ | h)
    · cases he
    · exact h
  | cons e t ih =>
    intro acc hall hex
    rw [List.foldl_cons]
    refine ih _ (fun x hx => hall x (List.mem_cons_of_mem _ hx)) ?_
    by_cases he : ks = e.1
    · exact Or.inr ((if_pos he).trans (hall e List.mem_cons_self he.symm))
    · rw [if_neg he]
      refine hex.imp_left ?_
      rintro ⟨x, hx, hxk⟩
      refine ⟨x, (List.mem_cons.mp hx).resolve_left fun h => he ?_, hxk⟩
      rw [← hxk, h]

theorem lastExact_of_sole {tbl : List (Seq × Bind)} {b : Nat} {bd : Bind}
    (hall : ∀ e ∈ tbl, ∀ t, e.1 = b :: t → t = [] ∧ e.2 = bd) (hex : ∃ e ∈ tbl, e.1 = [b]) :
    lastExact [b] tbl = bd ∧ hasProperExt [b] tbl = false := by
  constructor
  · exact Loop.lastExact_of_all [b] bd tbl _ (fun e he hk => (hall e he [] hk).2) (Or.inl hex)
  · refine Bool.eq_false_iff.mpr fun h => ?_
    obtain ⟨e, he, suf, hs, heq⟩ := hasProperExt_iff.mp h
    exact hs (hall e he suf heq).1

theorem lastExact_nomacro (keys : Seq) (tbl : List (Seq × Bind)) (h : ∀ sb ∈ tbl, sb.2.isMacro = false) :
    (lastExact keys tbl).isMacro = false :=
  List.foldlRecOn (motive := fun b : Bind => b.isMacro = false) tbl _ rfl fun b hb e he => by
    split
    · exact h e he
    · exact hb

theorem dispatch_stop {tbl : List (Seq × Bind)} {read : Seq} {k : Nat} (h : hasProperExt (read ++ [k]) tbl = false)
    (t matched : Seq) (pfx : Bool) (p a : Bind) :
    dispatch tbl (k :: t) read matched pfx p a =
      if (lastExact (read ++ [k]) tbl).action = "" then ⟨p, false, read ++ [k], matched, t, Bind.none⟩
      else ⟨lastExact (read ++ [k]) tbl, false, read ++ [k], matched ++ [k], t, Bind.none⟩ := by
  rw [dispatch]
  simp only [matchBind_eq, h, and_true, Bool.false_eq_true, if_false]

/-- what a dispatch does with the keys `ks` that follow `read` (`matched`: those of `read` that count as matched; `p`:
the shorter bind remembered so far) -/
structure DSpec (ks read matched : Seq) (p : Bind) (r : DResult) : Prop where
  split : r.read ++ r.rest = read ++ ks
  ge : read.length ≤ r.read.length
  took : ks ≠ [] → read.length < r.read.length
  all : r.pfx = true → r.rest = []
  /-- `matched` only grows, and by no more keys than `read` does -/
  mle : matched.length ≤ r.matched.length ∧ r.matched.length + read.length ≤ r.read.length + matched.length
  /-- not a prefix: the remembered bind is dropped, and a bind selected without a further matched key is `p` -/
  complete : ks ≠ [] → r.pfx = false → r.prefixed = Bind.none ∧ (r.matched.length = matched.length → r.bind = p)

theorem dispatch_spec (tbl : List (Seq × Bind)) (ks read matched : Seq) (pfx : Bool) (p a : Bind) :
    DSpec ks read matched p (dispatch tbl ks read matched pfx p a) := by
  fun_induction dispatch tbl ks read matched pfx p a with
  | case1 =>
    exact { split := rfl, ge := Nat.le_refl _, took := fun h => absurd rfl h, all := fun _ => rfl,
            mle := ⟨Nat.le_refl _, Nat.le_of_eq (Nat.add_comm _ _)⟩, complete := fun h => absurd rfl h }
  | case2 _ _ _ read _ _ _ read' =>
    have hl : read'.length = read.length + 1 := List.length_append
    refine { split := List.append_assoc _ [_] _, ge := ?_, took := fun _ => ?_, all := fun h => Bool.noConfusion h,
             mle := ⟨Nat.le_refl _, ?_⟩, complete := fun _ _ => ⟨rfl, fun _ => rfl⟩ }
    all_goals (dsimp only; omega)
  | case3 _ k t read matched _ _ read' _ _ _ ih =>
    have hl : read'.length = read.length + 1 := List.length_append
    have hm : (matched ++ [k]).length = matched.length + 1 := List.length_append
    have hmle := ih.mle
    refine { split := ih.split.trans (List.append_assoc _ [_] _), ge := by omega, took := fun _ => by omega,
             all := ih.all, mle := by omega, complete := fun _ hp => ?_ }
    by_cases ht : t = []
    · subst ht
      exact Bool.noConfusion hp
    · exact ⟨(ih.complete ht hp).1, fun hl => by omega⟩
  | case4 _ k _ read matched _ _ read' =>
    have hl : read'.length = read.length + 1 := List.length_append
    have hm : (matched ++ [k]).length = matched.length + 1 := List.length_append
    refine { split := List.append_assoc _ [_] _, ge := ?_, took := fun _ => ?_, all := fun h => Bool.noConfusion h,
             mle := ⟨?_, ?_⟩, complete := fun _ _ => ⟨rfl, fun hl => absurd hl ?_⟩ }
    all_goals (dsimp only; omega)

theorem DSpec.read_le {ks read matched : Seq} {p : Bind} {r : DResult} (h : DSpec ks read matched p r) :
    r.read.length ≤ read.length + ks.length := by
  have hlen := congrArg List.length h.split
  simp only [List.length_append] at hlen
  omega

theorem DSpec.rest_eq {ks read matched : Seq} {p : Bind} {r : DResult} (h : DSpec ks read matched p r) :
    r.rest = ks.drop (r.read.length - read.length) := by
  have hd := congrArg (List.drop r.read.length) h.split
  rwa [List.drop_left, List.drop_append, List.drop_eq_nil_of_le h.ge, List.nil_append] at hd

/-- the dispatcher cannot spin (C03 `dispatch_consumes`, C05, the recursion of `Stream.canon`): after a prefix the
loop's next step blocks in a read -/
theorem dispatch_progress (tbl : List (Seq × Bind)) :
    ∀ (ks read matched : Seq) (pfx : Bool) (p a : Bind), ks ≠ [] →
      let r := dispatch tbl ks read matched pfx p a
      (r.pfx = false → r.rest.length < ks.length) ∧ (r.pfx = true → r.rest = []) := by
  intro ks read matched pfx p a hne
  have h := dispatch_spec tbl ks read matched pfx p a
  have hlen := congrArg List.length h.split
  have htook := h.took hne
  simp only [List.length_append] at hlen
  exact ⟨fun _ => by omega, h.all⟩

theorem dispatch_append (tbl : List (Seq × Bind)) (ks ys read matched : Seq) (pfx : Bool) (p a : Bind)
    (hne : ks ≠ []) :
    dispatch tbl (ks ++ ys) read matched pfx p a =
      (let r := dispatch tbl ks read matched pfx p a
       if r.pfx then dispatch tbl ys r.read r.matched true r.prefixed r.bind else { r with rest := r.rest ++ ys }) := by
  fun_induction dispatch tbl ks read matched pfx p a with
  | case1 => exact absurd rfl hne
  | case2 _ _ _ _ _ _ _ _ _ h =>
    rw [List.cons_append, dispatch, if_pos h]
    rfl
  | case3 _ _ t _ _ _ _ _ _ h1 h2 ih =>
    rw [List.cons_append, dispatch, if_neg h1, if_pos h2]
    by_cases ht : t = []
    · subst ht
      rfl
    · exact ih ht
  | case4 _ _ _ _ _ _ _ _ _ h1 h2 =>
    rw [List.cons_append, dispatch, if_neg h1, if_neg h2]
    rfl

theorem dispatch_active_eq (tbl : List (Seq × Bind)) (ks read matched : Seq) (pfx : Bool) (p a a' : Bind)
    (hne : ks ≠ []) :
    dispatch tbl ks read matched pfx p a' =
      { dispatch tbl ks read matched pfx p a with
        bind := bif (dispatch tbl ks read matched pfx p a).pfx then a'
                else (dispatch tbl ks read matched pfx p a).bind } := by
  fun_induction dispatch tbl ks read matched pfx p a with
  | case1 => exact absurd rfl hne
  | case2 _ _ _ _ _ _ _ _ _ h =>
    rw [dispatch, if_pos h]
    rfl
  | case3 _ _ t _ _ _ _ _ _ h1 h2 ih =>
    rw [dispatch, if_neg h1, if_pos h2]
    by_cases ht : t = []
    · subst ht
      rfl
    · exact ih ht
  | case4 _ _ _ _ _ _ _ _ _ h1 h2 =>
    rw [dispatch, if_neg h1, if_neg h2]
    rfl

/-- `p'`: the shorter bind remembered when the dispatch goes on with `rest` -/
theorem dispatch_prefixes (tbl : List (Seq × Bind)) (rest : Seq) (a : Bind) (c : Seq) :
    ∀ (read matched : Seq) (pfx : Bool) (p : Bind),
      (∀ i, 0 < i → i ≤ c.length → hasProperExt (read ++ c.take i) tbl = true) →
      ∃ p', dispatch tbl (c ++ rest) read matched pfx p a =
          dispatch tbl rest (read ++ c) (matched ++ c) (pfx || !c.isEmpty) p' a ∧
        (c ≠ [] → (lastExact (read ++ c) tbl).action ≠ "" → p' = lastExact (read ++ c) tbl) ∧
        ((∀ i, 0 < i → i ≤ c.length → (lastExact (read ++ c.take i) tbl).action = "") → p' = p) := by
  induction c with
  | nil =>
    intro read matched pfx p _
    refine ⟨p, ?_, fun h => absurd rfl h, fun _ => rfl⟩
    rw [List.nil_append, List.append_nil, List.append_nil, List.isEmpty_nil, Bool.not_true, Bool.or_false]
  | cons k c ih =>
    intro read matched pfx p hall
    have shift : ∀ {P : Seq → Prop}, (∀ i, 0 < i → i ≤ (k :: c).length → P (read ++ (k :: c).take i)) →
        P (read ++ [k]) ∧ ∀ i, 0 < i → i ≤ c.length → P (read ++ [k] ++ c.take i) := fun h =>
      ⟨h 1 Nat.one_pos (Nat.succ_pos _), fun i hi hle => by
        have hi1 := h (i + 1) (Nat.succ_pos i) (Nat.succ_le_succ hle)
        rwa [List.take_succ_cons, List.append_cons] at hi1⟩
    obtain ⟨hk, hc⟩ := shift (P := (hasProperExt · tbl = true)) hall
    obtain ⟨p', h1, h2, h3⟩ := ih (read ++ [k]) (matched ++ [k]) true
      (if (lastExact (read ++ [k]) tbl).action ≠ "" then lastExact (read ++ [k]) tbl else p) hc
    refine ⟨p', ?_, fun _ hb => ?_, fun hun => ?_⟩
    · rw [List.cons_append, dispatch]
      simp only [matchBind_eq, hk, Bool.true_eq_false, and_false, if_false, if_true]
      rw [h1, List.append_assoc, List.append_assoc, List.singleton_append, List.isEmpty_cons, Bool.not_false,
        Bool.or_true, Bool.true_or]
    · by_cases hc0 : c = []
      · -- the last prefix is `read ++ [k]`, whose bind was remembered at that step
        subst hc0
        exact (h3 fun i hi hle => absurd (Nat.lt_of_lt_of_le hi hle) (Nat.lt_irrefl 0)).trans (if_pos hb)
      · rw [List.append_cons] at hb ⊢
        exact h2 hc0 hb
    · obtain ⟨huk, huc⟩ := shift (P := fun s => (lastExact s tbl).action = "") hun
      exact (h3 huc).trans (if_neg (not_not_intro huk))

theorem dispatch_walk (tbl : List (Seq × Bind)) (rest : Seq) (a : Bind) :
    ∀ (suf pre : Seq) (pfx : Bool) (p : Bind),
      (∀ i, 0 < i → i ≤ suf.length → hasProperExt (pre ++ suf.take i) tbl = true) →
      ∃ p', dispatch tbl (suf ++ rest) pre pre pfx p a
            = dispatch tbl rest (pre ++ suf) (pre ++ suf) (pfx || !suf.isEmpty) p' a
          ∧ (suf ≠ [] → (lastExact (pre ++ suf) tbl).action ≠ "" → p' = lastExact (pre ++ suf) tbl)
          ∧ (suf = [] → p' = p) := by
  intro suf pre pfx p hall
  obtain ⟨p', h1, h2, h3⟩ := dispatch_prefixes tbl rest a suf pre pre pfx p hall
  refine ⟨p', h1, h2, fun hs => h3 fun i hi hle => ?_⟩
  subst hs
  exact absurd (Nat.lt_of_lt_of_le hi hle) (Nat.lt_irrefl 0)

/-- C03, clause 1 (`exact_runs_binding`) -/
theorem dispatch_exact (tbl : List (Seq × Bind)) (s rest : Seq) (b : Bind)
    (hmem : (s, b) ∈ tbl) (hb : lastExact s tbl = b) (hact : b.action ≠ "")
    (hne : s ≠ []) (hnoext : hasProperExt s tbl = false) (p a : Bind) :
    dispatch tbl (s ++ rest) [] [] false p a = ⟨b, false, s, s, rest, Bind.none⟩ := by
  -- the walk through all keys but the last (every proper prefix of an entry can be extended), then one step
  obtain ⟨s', k, rfl⟩ : ∃ s' k, s = s' ++ [k] := ⟨_, _, (List.dropLast_concat_getLast hne).symm⟩
  have hext : ∀ i, 0 < i → i ≤ s'.length → hasProperExt ([] ++ s'.take i) tbl = true := fun i _ _ =>
    hasProperExt_iff.mpr ⟨_, hmem, s'.drop i ++ [k], List.append_ne_nil_of_right_ne_nil _ (List.cons_ne_nil _ _),
      by rw [List.nil_append, ← List.append_assoc, List.take_append_drop]⟩
  obtain ⟨p', h1, _, _⟩ := dispatch_walk tbl (k :: rest) a s' [] false p hext
  rw [List.append_assoc, List.singleton_append, h1, List.nil_append, dispatch_stop hnoext, hb, if_neg hact]

/-- C03, clause 2 (`proper_prefix_waits`) -/
theorem dispatch_prefix_waits (tbl : List (Seq × Bind)) (p : Seq) (hne : p ≠ [])
    (hall : ∀ i, 0 < i → i ≤ p.length → hasProperExt (p.take i) tbl = true) (pf a : Bind) :
    ∃ pf', dispatch tbl p [] [] false pf a = ⟨a, true, p, p, [], pf'⟩ :=
  let ⟨pf', h, _⟩ := dispatch_prefixes tbl [] a p [] [] false pf hall
  ⟨pf', by rwa [List.append_nil, List.nil_append, dispatch, List.isEmpty_eq_false_iff.mpr hne] at h⟩

/-- C03, clause 3 (`nomatch_runs_nothing`) -/
theorem dispatch_nomatch (tbl : List (Seq × Bind)) (k : Nat) (rest : Seq)
    (h1 : (lastExact [k] tbl).action = "") (h2 : hasProperExt [k] tbl = false) (a : Bind) :
    dispatch tbl (k :: rest) [] [] false Bind.none a = ⟨Bind.none, false, [k], [], rest, Bind.none⟩ := by
  rw [dispatch_stop (read := []) h2, List.nil_append, if_pos h1]

/-- C03, clause 4 (`shorter_binding_runs`) -/
theorem dispatch_shorter (tbl : List (Seq × Bind)) (s rest : Seq) (k : Nat) (b : Bind)
    (hne : s ≠ []) (hb : lastExact s tbl = b) (hact : b.action ≠ "")
    (hall : ∀ i, 0 < i → i ≤ s.length → hasProperExt (s.take i) tbl = true)
    (hdead1 : (lastExact (s ++ [k]) tbl).action = "") (hdead2 : hasProperExt (s ++ [k]) tbl = false)
    (pf a : Bind) :
    dispatch tbl (s ++ k :: rest) [] [] false pf a = ⟨b, false, s ++ [k], s, rest, Bind.none⟩ := by
  obtain ⟨p', h1, h2, _⟩ := dispatch_walk tbl (k :: rest) a s [] false pf hall
  rw [List.nil_append] at h1 h2
  rw [h1, h2 hne (hb ▸ hact), hb, dispatch_stop hdead2, if_pos hdead1]

theorem dispatch_nomacro (tbl : List (Seq × Bind)) (h : ∀ sb ∈ tbl, sb.2.isMacro = false) :
    ∀ (ks read matched : Seq) (pfx : Bool) (p a : Bind), p.isMacro = false → a.isMacro = false →
      (dispatch tbl ks read matched pfx p a).bind.isMacro = false ∧
      (dispatch tbl ks read matched pfx p a).prefixed.isMacro = false := by
  have hle : ∀ keys, (matchBind keys tbl).1.isMacro = false := by
    intro keys
    rw [matchBind_eq]
    exact lastExact_nomacro keys tbl h
  intro ks read matched pfx p a
  fun_induction dispatch tbl ks read matched pfx p a with
  | case1 => exact fun hp ha => ⟨ha, hp⟩
  | case2 => exact fun hp _ => ⟨hp, rfl⟩
  | case3 _ _ _ _ _ _ _ _ _ _ _ ih =>
    intro hp ha
    apply ih _ ha
    split
    · exact hle _
    · exact hp
  | case4 => exact fun _ _ => ⟨hle _, rfl⟩

namespace Stream
variable (tbl : List (Seq × Bind))

theorem dispatch_active : ∀ (ks read matched : Seq) (pfx : Bool) (p a a' : Bind), ks ≠ [] →
    (dispatch tbl ks read matched pfx p a).pfx = false →
    dispatch tbl ks read matched pfx p a' = dispatch tbl ks read matched pfx p a := by
  intro ks read matched pfx p a a' hne hp
  rw [dispatch_active_eq tbl ks read matched pfx p a a' hne, hp]
  rfl

/-- `p`: the keys of a reported prefix, walked from the remembered bind `P`; `r.prefixed`: the bind remembered at
the end of that walk -/
theorem dispatch_stale : ∀ (p read matched : Seq) (pfx : Bool) (P a : Bind) (r : DResult) (ys : Seq), p ≠ [] →
    dispatch tbl p read matched pfx P a = r → r.pfx = true →
    dispatch tbl (p ++ ys) read matched pfx r.prefixed a = dispatch tbl (p ++ ys) read matched pfx P a := by
  intro p read matched pfx P a r ys hne hr hp
  subst hr
  fun_induction dispatch tbl p read matched pfx P a with
  | case1 => exact absurd rfl hne
  | case2 | case4 => exact Bool.noConfusion hp
  | case3 _ _ t _ _ _ _ _ m h1 h2 ih =>
    -- the walk went on at `k`: what it remembers is the bind of `read ++ [k]` if there is one, and what the
    -- rest of the walk makes of the bind it started from otherwise
    rw [List.cons_append, dispatch, if_neg h1, if_pos h2, dispatch, if_neg h1, if_pos h2]
    by_cases he : m.1.action ≠ ""
    · rw [if_pos he, if_pos he]
    · rw [if_neg he] at hp ih ⊢
      rw [if_neg he]
      by_cases ht : t = []
      · subst ht
        rfl
      · exact ih ht hp

end Stream

end RLV
