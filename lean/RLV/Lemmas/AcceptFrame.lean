import RLV.Lemmas.RefreshRun
/-! `AcceptLine` run after a redisplay: the only thing it erases is what follows the end of the input, which the frame
of the redisplay has blank already (C11 with C04). -/
namespace RLV.Term
open RLV.Disp

/-- `lineCol < w` is asked for the cells only: the cursor clause needs no bound (`CUF` stops on the last column, and
C11's cursor theorem has none). `Pos`, not `At`, at both ends: C11 says nothing of a pending wrap, and the moves go
where they go with or without one. -/
theorem accept_run (w indent cursorCol cursorRow lineRows lineCol r0 : Nat) (t : Term) (hw0 : 0 < w)
    (h : Pos t w cursorCol (r0 + cursorRow)) :
    let t' := t.run (acceptToks w indent cursorCol cursorRow lineRows lineCol)
    Pos t' w 0 (r0 + lineRows + 1) ∧
    (lineCol < w → ∀ i, t'.lin i = if (r0 + lineRows) * w + lineCol ≤ i then blank else t.lin i) := by
  dsimp only
  rw [acceptToks, List.append_assoc _ _ [Tk.crlf], run_append, run_append t _ [Tk.ed0]]
  have mend : Moves w (mv .cub cursorCol ++ mv .cuu cursorRow ++ mv .cuf indent ++ [.dsr] ++ mv .cub w ++
      mv .cud lineRows ++ mv .cuf lineCol) (cursorCol, r0 + cursorRow) (min lineCol (w - 1), r0 + lineRows) :=
    (Moves.cub cursorCol).append (.cuu cursorRow) |>.append (.cuf indent (by omega)) |>.append .dsr
      |>.append (.cub w) |>.append (.cud lineRows) |>.append (.cuf lineCol (by omega)) |>.to (by omega) (by omega)
  obtain ⟨p1, l1⟩ := h.moves mend
  obtain ⟨p2, l2⟩ := p1.ed0.moves ((Moves.cub w).append .crlf)
  refine ⟨p2, fun hcol i => (congrFun l2 i).trans ?_⟩
  have hx : (t.run _).x = lineCol := p1.x.trans (Nat.min_eq_left (by omega))
  rw [ed0_lin ⟨p1.w, hx, p1.y⟩ hcol i, l1]

/-- Both composed statements of C11 are cases of this: the erasure starts exactly where the frame becomes blank
(`frame_after_end`). -/
theorem accept_after_refresh (w : Nat) (prompt sec first : List Nat) (rest : List (List Nat)) (k o prevRow r0 : Nat)
    (t : Term) (hw : t.w = w) (hwf : t.WF) (hy : t.y = r0 + prevRow) (hfree : ∀ ln ∈ first :: rest, 10 ∉ ln)
    (hk : k < (first :: rest).length) (ho : o ≤ ((first :: rest).getD k []).length) (hpr : prompt.length < w) :
    let pos := ((((first :: rest).take k).map List.length).map (· + 1)).sum + o
    let t1 := t.run (refresh w prompt sec prevRow false (joinNL (first :: rest)) pos)
    let t2 := t1.run (acceptLine w prompt (joinNL (first :: rest)) pos)
    (∀ r c, c < w → t2.cell r c = t1.cell r c) ∧ t2.x = 0 ∧
      t2.y = r0 + (blockRows w prompt.length first + rowsOfLines w prompt.length rest) := by
  intro pos t1 t2
  have hw0 : 0 < w := by omega
  obtain ⟨hc1, a1⟩ := refresh_lines w prompt sec first rest k o prevRow r0 t hw hwf hy hfree hk ho hpr
  obtain ⟨p2, hcell⟩ := accept_run w prompt.length _ _ (coordsLine w (joinNL (first :: rest)) prompt.length).2
    (coordsLine w (joinNL (first :: rest)) prompt.length).1 r0 t1 hw0 a1.toPos
  rw [← acceptLine_eq, coordsLine_join w prompt.length first rest hfree] at p2 hcell
  dsimp only at p2 hcell
  refine ⟨fun r c hcw => ?_, p2.x, ?_⟩
  · rw [cell_lin p2.w r hcw, hcell (Nat.mod_lt _ hw0), Nat.add_mul]
    split
    next hend => rw [hc1 r c hcw, if_neg (by omega), frame_after_end w prompt sec first rest _ hw0 (by omega)]
    next => rw [cell_lin a1.w r hcw]
  · rw [p2.y, blockRows]
    omega

end RLV.Term
