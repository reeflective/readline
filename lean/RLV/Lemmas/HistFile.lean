import RLV.Model.HistFile
/-! `splitNL` behind a newline starts afresh, so a file made of complete lines (`Complete`) can be read piece by piece
(`openHist_append`); what `openHist` gives after any number of `Write`s, and after one cut short, follows record by
record. -/
namespace RLV.HistFile

theorem splitNL_append_of_not_mem (a t cur : Bytes) (ha : 10 ∉ a) :
    splitNL (a ++ t) cur = splitNL t (a.reverse ++ cur) := by
  induction a generalizing cur with
  | nil => rfl
  | cons x a ih =>
    obtain ⟨hx, ha⟩ := List.ne_and_not_mem_of_not_mem_cons ha
    rw [List.cons_append, splitNL, if_neg hx.symm, ih _ ha, List.reverse_cons, List.append_assoc]
    rfl

theorem splitNL_line (a rest : Bytes) (ha : 10 ∉ a) : splitNL (a ++ 10 :: rest) [] = a :: splitNL rest [] := by
  rw [splitNL_append_of_not_mem a _ [] ha, splitNL, if_pos rfl, List.append_nil, List.reverse_reverse]

theorem splitNL_tail (a : Bytes) (ha : 10 ∉ a) : splitNL a [] = if a = [] then [] else [a] := by
  have e : splitNL (a ++ []) [] = splitNL [] (a.reverse ++ []) := splitNL_append_of_not_mem a [] [] ha
  rw [List.append_nil, List.append_nil] at e
  rw [e]
  simp only [splitNL, List.reverse_eq_nil_iff, List.reverse_reverse]

theorem splitNL_append_right {t₁ t₂ : Bytes} {r : List Bytes} (h : ∀ cur, splitNL t₁ cur = splitNL t₂ cur ++ r)
    (f cur : Bytes) : splitNL (f ++ t₁) cur = splitNL (f ++ t₂) cur ++ r := by
  induction f generalizing cur with
  | nil => exact h cur
  | cons x f ih =>
    simp only [List.cons_append, splitNL]
    split
    · rw [ih, List.cons_append]
    · exact ih _

def Complete (file : Bytes) : Prop := file = [] ∨ file.getLast? = some 10

theorem splitNL_append_complete (f g : Bytes) (hf : Complete f) :
    splitNL (f ++ g) [] = splitNL f [] ++ splitNL g [] := by
  rcases hf with rfl | hl
  · rfl
  · obtain ⟨f, rfl⟩ := List.getLast?_eq_some_iff.mp hl
    rw [List.append_assoc]
    exact splitNL_append_right (t₂ := [10])
      (fun cur => by simp only [List.cons_append, List.nil_append, splitNL, ↓reduceIte]) f []

theorem splitNL_terminate (g : Bytes) (hne : g ≠ []) (hl : g.getLast? ≠ some 10) :
    splitNL (g ++ [10]) [] = splitNL g [] := by
  obtain ⟨g, y, rfl⟩ := (List.eq_nil_or_concat g).resolve_left hne
  rw [List.concat_eq_append] at hl ⊢
  have hy : y ≠ 10 := fun h => hl (List.getLast?_concat.trans (congrArg some h))
  rw [List.append_assoc]
  exact (splitNL_append_right (t₁ := [y, 10]) (t₂ := [y]) (r := [])
    (fun cur => by simp only [splitNL, hy, reduceCtorEq, ↓reduceIte, List.append_nil]) g []).trans (List.append_nil _)

theorem complete_append_nl (f : Bytes) : Complete (f ++ [10]) := Or.inr List.getLast?_concat

theorem dropCR_of_not_mem {p : Bytes} (h : 13 ∉ p) : dropCR p = p := by
  unfold dropCR
  rw [if_neg (fun hl => h (List.mem_of_getLast? hl))]

section
variable {enc : Bytes → Bytes} {dec : Bytes → Option Bytes} {trim : Bytes → Bytes} {V : Bytes → Prop}

theorem openHist_nil : openHist dec [] = [] := rfl

theorem openHist_append (f g : Bytes) (hf : Complete f) : openHist dec (f ++ g) = openHist dec f ++ openHist dec g := by
  unfold openHist
  rw [splitNL_append_complete f g hf, List.filterMap_append]

theorem openHist_record (L : CodecLaws enc dec V) (b : Bytes) (hb : V b) (hne : b ≠ []) (t : Bytes)
    (ht : t = [] ∨ t = [10]) :
    openHist dec (enc b ++ t) = [b] := by
  have : splitNL (enc b ++ t) [] = [enc b] := by
    rcases ht with rfl | rfl
    · rw [List.append_nil, splitNL_tail _ (L.noNL b hb), if_neg (L.nonEmpty b hb)]
    · rw [splitNL_line _ [] (L.noNL b hb)]
      rfl
  unfold openHist
  rw [this]
  simp only [List.filterMap_cons, List.filterMap_nil, dropCR_of_not_mem (L.noCR b hb), L.roundtrip b hb, if_neg hne]

theorem openHist_cut_record (L : CodecLaws enc dec V) (b : Bytes) (hb : V b) (k : Nat) (hk : k < (enc b).length) :
    openHist dec ((enc b).take k) = [] := by
  have hnl : 10 ∉ (enc b).take k := fun h => L.noNL b hb (List.mem_of_mem_take h)
  have hcr : 13 ∉ (enc b).take k := fun h => L.noCR b hb (List.mem_of_mem_take h)
  unfold openHist
  rw [splitNL_tail _ hnl]
  split
  · rfl
  · rcases L.prefixUndecodable b k hb hk with h | h <;>
      simp only [List.filterMap_cons, List.filterMap_nil, dropCR_of_not_mem hcr, h, ↓reduceIte]

theorem openHist_append_record (L : CodecLaws enc dec V) (f : Bytes) (hf : Complete f) (b : Bytes) (hb : V b)
    (hne : b ≠ []) :
    openHist dec (f ++ enc b ++ [10]) = openHist dec f ++ [b] := by
  rw [List.append_assoc, openHist_append f _ hf, openHist_record L b hb hne _ (Or.inr rfl)]

/-- whatever is in the file `g`: a torn record at its end, garbage, no final newline -/
theorem openHist_writeRec (L : CodecLaws enc dec V) (g line : Bytes) (hb : V (trim line)) (hne : trim line ≠ []) :
    openHist dec (writeRec enc trim g line) = openHist dec g ++ [trim line] := by
  unfold writeRec
  simp only [hne, if_false]
  by_cases hc : g ≠ [] ∧ g.getLast? ≠ some 10
  · -- the file ends in the middle of a line: a newline is written first, which changes none of its pieces
    rw [if_pos hc, openHist_append_record L (g ++ [10]) (complete_append_nl g) (trim line) hb hne]
    unfold openHist
    rw [splitNL_terminate g hc.1 hc.2]
  · rw [if_neg hc]
    refine openHist_append_record L g ?_ (trim line) hb hne
    by_cases hg : g = []
    · exact Or.inl hg
    · exact Or.inr (Decidable.not_not.mp fun h => hc ⟨hg, h⟩)

theorem writeRec_blank (g line : Bytes) (hb : trim line = []) : writeRec enc trim g line = g := by
  simp only [writeRec, hb, ↓reduceIte]

theorem openHist_writes (L : CodecLaws enc dec V) (ls : List Bytes) (hv : ∀ l ∈ ls, V (trim l)) (g : Bytes) :
    openHist dec (writes enc trim g ls) = openHist dec g ++ entries trim ls := by
  unfold writes
  induction ls generalizing g with
  | nil => exact (List.append_nil _).symm
  | cons l ls ih =>
    rw [List.foldl_cons, ih (fun l' h => hv l' (List.mem_cons_of_mem _ h))]
    by_cases hb : trim l = []
    · rw [writeRec_blank g l hb]
      simp [entries, hb]
    · rw [openHist_writeRec L g l (hv l List.mem_cons_self) hb]
      simp [entries, hb]

theorem complete_writeRec (g line : Bytes) (hg : Complete g) : Complete (writeRec enc trim g line) := by
  unfold writeRec
  dsimp only
  split
  · exact hg
  · exact complete_append_nl _

theorem complete_writes (ls : List Bytes) : ∀ (g : Bytes), Complete g → Complete (writes enc trim g ls) := by
  induction ls with
  | nil => exact fun g h => h
  | cons l ls ih => exact fun g hg => ih _ (complete_writeRec g l hg)

theorem openHist_cut (L : CodecLaws enc dec V) (f : Bytes) (hf : Complete f) (b : Bytes) (hb : V b) (hne : b ≠ [])
    (k : Nat) :
    openHist dec (f ++ (enc b ++ [10]).take k) =
      openHist dec f ++ (if (enc b).length ≤ k then [b] else []) := by
  rw [openHist_append f _ hf, List.take_append]
  congr 1
  by_cases hk : (enc b).length ≤ k
  · rw [List.take_of_length_le hk, if_pos hk]
    exact openHist_record L b hb hne _ (by cases k - (enc b).length <;> simp)
  · rw [show k - (enc b).length = 0 by omega, List.take_zero, List.append_nil, if_neg hk]
    exact openHist_cut_record L b hb k (by omega)

end
end RLV.HistFile
