import RLV.Model.Macro
/-! `RecordKeys` while a recording is under way (C18). -/
namespace RLV.Macro

/-- while recording, once the keys of the start command have been skipped, a call appends its keys -/
theorem recordKeys_recording (cur : List Nat) (st : Option (List Nat)) (keys : List Nat) :
    recordKeys ⟨true, false, cur, st⟩ keys = ⟨true, false, cur ++ keys, st⟩ := by
  cases keys with
  | nil =>
    rw [List.append_nil]
    rfl
  | cons a t => rfl

theorem foldl_recordKeys (st : Option (List Nat)) : ∀ (cs : List (List Nat)) (cur : List Nat),
    cs.foldl recordKeys ⟨true, false, cur, st⟩ = ⟨true, false, cur ++ cs.flatten, st⟩
  | [], cur => by
    rw [List.flatten_nil, List.append_nil]
    rfl
  | c :: cs, cur => by
    rw [List.foldl_cons, recordKeys_recording, foldl_recordKeys st cs, List.flatten_cons, List.append_assoc]

end RLV.Macro
