import RLV.Lemmas.KeyMeasure
import RLV.Lemmas.DispatchKeys
/-! What `MatchMain` and `MatchLocal` do to the key stack, in the terms of Lemmas/KeyMeasure (`Out`): for every
bind table, every key stack and every stale engine state; for the local matcher, a stack with keys waiting
(`0 < pending`) whose `matched` keys have been flushed. -/
namespace RLV

/-- a stage of a matcher has read `read` from the stack of `e` -/
structure Taken (e e' : Eng) (pfx : Bool) (read : Seq) : Prop where
  keys : e'.keys = e.keys.popN read.length
  registered : e'.registered = e.registered
  le : read.length ≤ e.keys.pending
  all : pfx = true → read.length = e.keys.pending
  pos : 0 < e.keys.pending → 0 < read.length

/-- the dispatcher, run on the whole stack of `e`: `DSpec` in the terms of the stack -/
structure Dispatched (e e' : Eng) (pfx : Bool) (read matched : Seq) : Prop extends Taken e e' pfx read where
  mle : matched.length ≤ read.length
  complete : 0 < e.keys.pending → pfx = false →
    e'.prefixed = Bind.none ∧ (matched.length = 0 → e'.active = e.prefixed)

theorem dispatchKeys_dispatched {tbl : List (Seq × Bind)} {e e' : Eng} {pfx : Bool} {read matched : Seq}
    (h : dispatchKeys tbl (e.keys.buf.length + e.keys.mkeys.length) e [] [] false = (e', pfx, read, matched)) :
    Dispatched e e' pfx read matched := by
  have hd := dispatchKeys_take tbl e.keys.pending e
  rw [List.take_of_length_le (Nat.le_of_eq e.keys.stream_length)] at hd
  have sp := dispatch_spec tbl e.keys.stream [] [] false e.prefixed e.active
  have hne : 0 < e.keys.pending → e.keys.stream ≠ [] := fun h =>
    List.ne_nil_of_length_pos (by rwa [Keys.stream_length])
  have hrr := congrArg List.length sp.split
  rw [List.length_append, List.nil_append, Keys.stream_length] at hrr
  cases hd.symm.trans h  -- `e'`, `pfx`, `read`, `matched` become the components of the list-level result
  exact {
    keys := rfl
    registered := rfl
    le := Nat.le.intro hrr
    all := fun hp => by rwa [sp.all hp] at hrr
    pos := fun hpos => sp.took (hne hpos)
    mle := sp.mle.2
    complete := fun hpos => sp.complete (hne hpos) }

theorem Taken.kept {e e' : Eng} {pfx : Bool} {read : Seq} (h : Taken e e' pfx read) : Kept e.keys e'.keys := by
  rw [h.keys]
  exact Kept.popN _ _

theorem Taken.pending {e e' : Eng} {pfx : Bool} {read : Seq} (h : Taken e e' pfx read) :
    e'.keys.pending + read.length = e.keys.pending := by
  rw [h.keys]
  exact (PopRel.popN h.le).pending

theorem Taken.matchedPrefix_out {e e' : Eng} {read : Seq} {pfx : Bool} {S : Prop} (h : Taken e e' true read) :
    Out e.keys (e'.keys.matchedPrefix read) pfx S := by
  have hl := h.all rfl
  have hp := h.pending
  have hpp := Keys.matchedPrefix_pending e'.keys read
  refine ⟨h.kept.trans (Kept.matchedPrefix _ _), by omega, Or.inl ?_⟩
  obtain ⟨hb, hm⟩ := Keys.pending_zero (k := e'.keys) (by omega)
  cases read with
  | nil => exact MLoop.needRead_of_idle (show e'.keys.pending = 0 by omega)
  | cons a t => exact (MLoop.needRead_iff _).mpr ⟨hm, Or.inr (congrArg List.isEmpty hb)⟩

/-- reads on from where a stage left off; a prefix: the keys ran out inside a character -/
theorem matchCharLoop_taken {e : Eng} (f : Nat) (e0 : Eng) (read0 : Seq) :
    ∀ {pfx0 : Bool}, Taken e e0 pfx0 read0 →
      Taken e (matchCharLoop f e0 read0).1 (!(matchCharLoop f e0 read0).2.2) (matchCharLoop f e0 read0).2.1 := by
  -- out of fuel or a full rune (1, 2); no key left (3); a key is taken (4)
  fun_induction matchCharLoop f e0 read0 with
  | case1 | case2 => exact fun h => { h with all := nofun }
  | case3 _ e0 read0 _ hp =>
    intro _ h
    have hpend := h.pending
    have hz := e0.keys.peek_none_iff.mp hp
    have hall : read0.length = e.keys.pending := by omega
    exact { h with all := fun _ => hall }
  | case4 _ e0 read0 _ k hp ih =>
    intro _ h
    have hpend := h.pending
    have hpos := Keys.pending_pos_of_peek hp
    have hlen : (read0 ++ [k]).length = read0.length + 1 := List.length_append
    have hT : Taken e { e0 with keys := e0.keys.pop } false (read0 ++ [k]) := by
      refine { keys := ?_, registered := h.registered, le := by omega, all := nofun, pos := fun _ => by omega }
      rw [hlen, ← Keys.popN_add, ← h.keys]
      rfl
    exact ih hT

theorem matchCharacter_taken {e e0 e1 : Eng} {pfx0 pfx1 : Bool} {read0 read : Seq} {b b1 : Bind}
    (h : Taken e e0 pfx0 read0) (hm : matchCharacter e0 b pfx0 read0 = (e1, b1, pfx1, read)) :
    Taken e e1 pfx1 read := by
  have hT := matchCharLoop_taken 4 e0 read0 h
  revert hm
  -- the fallback applies and the character is incomplete (1), not valid (2), inserted (3); it does not apply (4)
  fun_cases matchCharacter e0 b pfx0 read0 with
  | case1 _ _ hf =>
    intro hm
    cases hm
    rwa [hf] at hT
  | case2 _ _ hf =>
    intro hm
    cases hm
    rwa [eq_true_of_ne_false hf] at hT
  | case3 _ _ hf =>
    intro hm
    cases hm
    rw [eq_true_of_ne_false hf] at hT
    exact { hT with }  -- `Taken` does not look at `active`
  | case4 =>
    intro hm
    cases hm
    exact h

/-- what `MatchMain` returns, on any stack; `False`: it selects no bind without consuming a key -/
structure MainOut (e e' : Eng) (pfx : Bool) : Prop where
  registered : e'.registered = e.registered
  keys : Out e.keys e'.keys pfx False

theorem nonIncOverrideR_spec {e e2 : Eng} {b b2 : Bind} {p p2 : Bool} {rd : Seq}
    (h : nonIncOverrideR e b p rd = (e2, b2, p2)) :
    e2.keys = e.keys ∧ e2.registered = e.registered ∧ (p2 = true → p = true) := by
  unfold nonIncOverrideR nonIncOverride at h
  split at h
  next =>  -- the first bytes of a character
    cases h
    exact ⟨rfl, rfl, id⟩
  next =>
    split at h
    next =>  -- overridden: `self-insert`, no prefix
      cases h
      exact ⟨rfl, rfl, nofun⟩
    next =>
      cases h
      exact ⟨rfl, rfl, id⟩

theorem matchMain_stages {e e0 e1 e2 : Eng} {pfx0 pfx1 pfx : Bool} {read0 m0 read : Seq} {bind1 bind : Bind}
    (hd : dispatchKeys e.mainBinds (e.keys.buf.length + e.keys.mkeys.length) e [] [] false = (e0, pfx0, read0, m0))
    (hc : matchCharacter e0 e0.active pfx0 read0 = (e1, bind1, pfx1, read))
    (ho : nonIncOverrideR { e1 with keys := if pfx1 then e1.keys.matchedPrefix read else e1.keys.matchedKeys read [] }
      bind1 pfx1 read = (e2, bind, pfx)) :
    MainOut e e2 pfx := by
  have hT := matchCharacter_taken (dispatchKeys_dispatched hd).toTaken hc
  obtain ⟨hok, hor, hop⟩ := nonIncOverrideR_spec ho
  refine ⟨hor.trans hT.registered, ?_⟩
  rw [hok]
  cases pfx1 with
  | true => exact hT.matchedPrefix_out
  | false =>
    have hpf : pfx = false := Bool.eq_false_iff.mpr fun hp => Bool.noConfusion (hop hp)
    have hp := hT.pending
    have hk : (e1.keys.matchedKeys read []).pending = e1.keys.pending := Keys.matchedKeys_pending ..
    rw [hpf]
    refine (hT.kept.trans (Kept.matchedKeys ..)).out (by omega) fun hpos => ?_
    have hr := hT.pos hpos
    omega

theorem matchMain_out (e : Eng) : MainOut e (matchMain e).1 (matchMain e).2.2.2 := by
  -- past the first case: the dispatcher (`hd`), the multibyte fallback (`hc`), the override of the search
  -- minibuffer (`ho`)
  fun_cases matchMain e with
  | case1 =>
    -- no bind usable in this mode: `PopForce`
    have hp : e.keys.popForce.pending = e.keys.pending - 1 := e.keys.pop_pending
    exact ⟨rfl, (Kept.popForce e.keys).out (by omega) fun _ => by omega⟩
  | case2 hne n e0 pfx0 read0 m0 hd e1 bind1 pfx1 read hc e2' e2 bind pfx ho h =>
    -- an escape key read as a prefix in the Vi keymaps: `handleEscape(true)` drops it
    obtain ⟨hreg, hk⟩ := matchMain_stages hd hc ho
    exact ⟨hreg, hk.popForce⟩
  | case3 hne n e0 pfx0 read0 m0 hd e1 bind1 pfx1 read hc e2' e2 bind pfx ho =>
    exact matchMain_stages hd hc ho

theorem hasCmd_none {e : Eng} {b : Bind} (h : "" ∉ e.registered) (hb : b.action = "") : hasCmd e b = false := by
  have hc : e.registered.contains "" = false := by
    rw [List.contains_eq_mem]
    exact decide_eq_false h
  rw [hasCmd, hb, hc, Bool.and_false]

/-- what `MatchLocal` returns on a stack with keys waiting; `keys`: a bind selected without consuming a key is the stale
prefixed bind, dropped by this call -/
structure LocalOut (e e' : Eng) (b : Bind) (cmd pfx : Bool) : Prop where
  registered : e'.registered = e.registered
  named : cmd = true → "" ∉ e.registered → b.action ≠ ""
  keys : Out e.keys e'.keys pfx (b.action ≠ "" → e'.prefixed = Bind.none ∧ e.prefixed.action ≠ "")

theorem matchLocal_stages {e e1 : Eng} {ltbl : List (Seq × Bind)} {pfx : Bool} {read matched : Seq}
    (hd : dispatchKeys ltbl (e.keys.buf.length + e.keys.mkeys.length) e [] [] false = (e1, pfx, read, matched))
    (hfl : e.keys.matched = []) (hpos : 0 < e.keys.pending) :
    let k2 := if pfx then e1.keys.matchedPrefix read else e1.keys.matchedKeys matched (read.drop matched.length)
    e1.registered = e.registered ∧
    Out e.keys k2 pfx (k2.matched = [] ∧ e1.prefixed = Bind.none ∧ e1.active = e.prefixed) := by
  have hD := dispatchKeys_dispatched hd
  refine ⟨hD.registered, ?_⟩
  cases pfx with
  | true => exact hD.matchedPrefix_out
  | false =>
    have hk := Keys.matchedKeys_pending e1.keys matched (read.drop matched.length)
    rw [List.length_drop] at hk
    have hp := hD.pending
    have hmle := hD.mle
    obtain ⟨hpn, hact⟩ := hD.complete hpos rfl
    simp only [Bool.false_eq_true, if_false]
    refine ⟨hD.kept.trans (Kept.matchedKeys ..), by omega, Or.inr ⟨rfl, ?_⟩⟩
    by_cases hm0 : matched.length = 0
    · refine Or.inr ⟨?_, hpn, hact hm0⟩
      rw [List.eq_nil_of_length_eq_zero hm0, hD.keys]
      exact (PopRel.popN hD.le).matched.trans hfl
    · exact Or.inl (by omega)

theorem matchLocal_out (e : Eng) (ltbl : List (Seq × Bind)) (is : Bool)
    (hfl : e.keys.matched = []) (hpos : 0 < e.keys.pending) :
    LocalOut e (matchLocal e ltbl is).1 (matchLocal e ltbl is).2.1 (matchLocal e ltbl is).2.2.1
      (matchLocal e ltbl is).2.2.2 := by
  -- `handleEscape(false)` runs when the keys matched are a lone escape: not after a dispatch that matched no key
  have hescape : ∀ {e2 : Eng} {c pfx : Bool} {S S' : Prop}, (isEscapeKey e2 && c) = true →
      Out e.keys e2.keys pfx (e2.keys.matched = [] ∧ S) → Out e.keys e2.keys false S' := by
    intro _ _ _ _ _ h hk
    simp only [isEscapeKey, Bool.and_eq_true, beq_iff_eq] at h
    refine { hk with ends := hk.ends.imp_right ?_ }
    rintro ⟨-, hc⟩
    refine ⟨rfl, hc.imp_right ?_⟩
    rintro ⟨hm, -⟩
    rw [hm] at h
    cases h.1
  -- `hd`: the dispatcher; `h`: `handleEscape(false)` runs, and selects `vi-movement-mode` (2, `hv`), leaves the
  -- incremental search (3) or selects nothing (4)
  fun_cases matchLocal e ltbl is with
  | case1 =>
    exact ⟨rfl, fun h => absurd h Bool.false_ne_true,
      Kept.refl _, Nat.le_refl _, Or.inr ⟨rfl, Or.inr fun h => absurd rfl h⟩⟩
  | case2 hne n e1 pfx read matched hd bind cmd e2 h hv =>
    obtain ⟨hreg, hk⟩ := matchLocal_stages hd hfl hpos
    exact ⟨hreg, fun _ _ hb => absurd (hv.symm.trans hb) (by decide), hescape h hk⟩
  | case3 hne n e1 pfx read matched hd bind cmd e2 h =>
    obtain ⟨hreg, hk⟩ := matchLocal_stages hd hfl hpos
    exact ⟨hreg, fun _ _ hb => absurd (show ("emacs-editing-mode" : String) = "" from hb) (by decide),
      (hescape (S' := False) h hk).popForce⟩
  | case4 hne n e1 pfx read matched hd bind cmd e2 h =>
    obtain ⟨hreg, hk⟩ := matchLocal_stages hd hfl hpos
    exact ⟨hreg, fun hc => absurd hc Bool.false_ne_true, hescape h hk⟩
  | case5 hne n e1 pfx read matched hd =>
    obtain ⟨hreg, hk⟩ := matchLocal_stages hd hfl hpos
    refine ⟨hreg, fun hc hr hact => ?_, hk.imp fun ⟨_, hpn, hact⟩ hne => ⟨hpn, by rwa [← hact]⟩⟩
    rw [← hreg] at hr
    exact Bool.false_ne_true ((hasCmd_none hr hact).symm.trans hc)

end RLV
