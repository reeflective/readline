import RLV.Model.Parser
/-! `$if` / `$else` / `$endif` in the parser model. `execTok` gates every token but these three by the top of the
condition stack alone, so along a well-nested program a directive fires iff the condition of its *innermost*
enclosing block holds (`run_blks`). That is the property's "every enclosing block" exactly on programs in which no
block sits inside an inactive block (`specIn_eq_spec_blks`). -/
namespace RLV.Inputrc
open RLV.Core (G Panic)

def isCondKw (d : Str) : Bool := d = str "$if" || d = str "$else" || d = str "$endif"
def Tk.isCond (t : Tk) : Bool := t.2.2 = .construct && isCondKw t.1

def fresh (km : Str) : PSt := { keymap := km, conds := [true], errs := [] }

theorem top_fresh (km : Str) (es : List EKind) :
    ({ keymap := km, conds := [true], errs := es } : PSt).top = true := rfl

section
variable {σ : Type} (H : Handler σ) (o : Opts) (nested : Option (List Nat → σ → G σ))

theorem Tk.not_isCond {d v : Str} (hc : Tk.isCond (d, v, .construct) = false) :
    d ≠ str "$if" ∧ d ≠ str "$else" ∧ d ≠ str "$endif" := by
  simpa only [Tk.isCond, isCondKw, decide_true, Bool.true_and, Bool.or_eq_false_iff, decide_eq_false_iff_not,
    and_assoc] using hc

theorem execTok_inactive (p : PSt) (h : σ) (t : Tk) (hc : t.isCond = false) (ht : p.top = false) :
    execTok H o nested p h t = .ok (p, h, none) := by
  have hg : (!p.top) = true := congrArg not ht
  obtain ⟨d, v, tok⟩ := t
  cases tok with
  | none => rfl
  | bind | bindMacro =>
    simp only [execTok, doBind, if_pos hg]
    rfl
  | set =>
    simp only [execTok, doSet, if_pos hg]
    rfl
  | construct =>
    obtain ⟨h1, h2, h3⟩ := Tk.not_isCond hc
    simp only [execTok, doConstruct, if_neg h1, if_neg h2, if_neg h3, if_pos hg]
    -- `$include` and every other construct are gated alike
    split <;> rfl

/-- `apply_ite` right to left, each branch up to an equation: walks the `if`s of a `do` body -/
theorem ite_map {α β : Type} {c : Prop} [Decidable c] {f : α → β} {a b : G β} {a' b' : G α}
    (ha : a = a'.map f) (hb : b = b'.map f) : (if c then a else b) = (if c then a' else b').map f := by
  split <;> assumption

theorem execTok_active (p : PSt) (h : σ) (t : Tk) (hc : t.isCond = false) (ht : p.top = true) :
    execTok H o nested p h t =
      (execTok H o nested (fresh p.keymap) h t).map fun r => ({ p with keymap := r.1.keymap }, r.2.1, r.2.2) := by
  have hg : ¬ (!p.top) = true := by
    rw [ht]
    decide
  have hf : ¬ (!(fresh p.keymap).top) = true := Bool.false_ne_true
  obtain ⟨d, v, tok⟩ := t
  cases tok with
  | none => rfl
  | bind | bindMacro =>
    simp only [execTok, doBind, if_neg hg, if_neg hf]
    rfl
  | set =>
    simp only [execTok, doSet, if_neg hg, if_neg hf]
    refine ite_map (ite_map rfl rfl) ?_    -- `keymap`
    refine ite_map (ite_map rfl rfl) ?_    -- `editing-mode`
    -- an ordinary variable, by the dynamic type of the handler's answer
    cases H.get h d with
    | unsupported | b | s => rfl
    | i =>
      dsimp only
      split <;> rfl
    | nil =>
      dsimp only
      split
      · rfl
      · exact ite_map rfl (ite_map rfl rfl)
  | construct =>
    obtain ⟨h1, h2, h3⟩ := Tk.not_isCond hc
    simp only [execTok, doConstruct, if_neg h1, if_neg h2, if_neg h3, if_neg hg, if_neg hf]
    refine ite_map ?_ rfl    -- `$include`; any other construct
    cases (H.readFile h v).2 with
    | notExist | failed => rfl
    | ok bytes =>
      cases nested with
      | none => rfl
      | some run =>
        dsimp only
        cases run bytes (H.readFile h v).1 <;> rfl
end

/-- a well-nested program: directives, and `$if test … $else … $endif` blocks of programs. Every block has its
`$else`: a token list with an `$if … $endif` without one is not the `flatL` of any `wfL` program. -/
inductive Blk where
  | tok (t : Tk)
  | ite (test : Str) (thn els : List Blk)

def ifTk (test : Str) : Tk := (str "$if", test, .construct)
def elseTk : Tk := (str "$else", [], .construct)
def endifTk : Tk := (str "$endif", [], .construct)

mutual
  def Blk.flat : Blk → List Tk
    | .tok t => [t]
    | .ite test t f => [ifTk test] ++ flatL t ++ [elseTk] ++ flatL f ++ [endifTk]
  def flatL : List Blk → List Tk
    | [] => []
    | b :: bs => b.flat ++ flatL bs
end

mutual
  def Blk.wf : Blk → Bool
    | .tok t => !t.isCond
    | .ite _ t f => wfL t && wfL f
  def wfL : List Blk → Bool
    | [] => true
    | b :: bs => b.wf && wfL bs
end

section
variable {σ : Type} (H : Handler σ) (o : Opts) (nested : Option (List Nat → σ → G σ))

/-- `execTok` along a token list: the loop of `parseLines` with `haltOnErr` off and without the scanner. The error
value of a token (`r.2.2`) is dropped, where `parseLines` appends it to `errs`, which `execTok` never reads.
No theorem relates the two loops: that they agree is read off the definitions. -/
def runToks : List Tk → PSt → σ → G (PSt × σ)
  | [], p, h => .ok (p, h)
  | t :: ts, p, h =>
    match execTok H o nested p h t with
    | .error e => .error e
    | .ok r => runToks ts r.1 r.2.1

/-- a directive taking effect: what it does to (keymap, handler state) on a fresh parser -/
def effect (t : Tk) (s : Str × σ) : G (Str × σ) :=
  match execTok H o nested (fresh s.1) s.2 t with
  | .error e => .error e
  | .ok r => .ok (r.1.keymap, r.2.1)

-- what the parser implements: only the innermost enclosing condition counts
mutual
  def Blk.specIn (on : Bool) : Blk → Str × σ → G (Str × σ)
    | .tok t, s => if on then effect H o nested t s else .ok s
    | .ite test t f, s =>
      match specInL (evalIf o test) t s with
      | .error e => .error e
      | .ok s1 => specInL (!evalIf o test) f s1
  def specInL (on : Bool) : List Blk → Str × σ → G (Str × σ)
    | [], s => .ok s
    | b :: bs, s =>
      match b.specIn on s with
      | .error e => .error e
      | .ok s1 => specInL on bs s1
end

-- the property: a directive takes effect iff every enclosing condition holds
mutual
  def Blk.spec (on : Bool) : Blk → Str × σ → G (Str × σ)
    | .tok t, s => if on then effect H o nested t s else .ok s
    | .ite test t f, s =>
      match specL (on && evalIf o test) t s with
      | .error e => .error e
      | .ok s1 => specL (on && !evalIf o test) f s1
  def specL (on : Bool) : List Blk → Str × σ → G (Str × σ)
    | [], s => .ok s
    | b :: bs, s =>
      match b.spec on s with
      | .error e => .error e
      | .ok s1 => specL on bs s1
end

theorem runToks_append (a b : List Tk) (p : PSt) (h : σ) :
    runToks H o nested (a ++ b) p h =
      match runToks H o nested a p h with
      | .error e => .error e
      | .ok r => runToks H o nested b r.1 r.2 := by
  induction a generalizing p h with
  | nil => rfl
  | cons t ts ih =>
    simp only [List.cons_append, runToks]
    cases execTok H o nested p h t with
    | error e => rfl
    | ok r => exact ih r.1 r.2.1

/-- a parser state by the top `c` of its condition stack (`fresh km` is `withTop true [] [] km`) -/
def withTop (c : Bool) (stk : List Bool) (es : List EKind) (km : Str) : PSt :=
  { keymap := km, conds := c :: stk, errs := es }

section
variable (c b : Bool) (stk : List Bool) (es : List EKind) (km : Str) (h : σ)

theorem execTok_if (test : Str) :
    execTok H o nested (withTop c stk es km) h (ifTk test) =
      .ok (withTop (evalIf o test) (c :: stk) es km, h, none) := by
  show doConstruct H o nested _ h (str "$if") test = _
  rw [doConstruct, if_pos rfl]
  rfl

/-- inside a block: what `$else` and `$endif` test before they report "without `$if`" -/
theorem in_block : ¬ (withTop c (b :: stk) es km).conds.length = 1 := nofun

theorem execTok_else :
    execTok H o nested (withTop c (b :: stk) es km) h elseTk = .ok (withTop (!c) (b :: stk) es km, h, none) := by
  show doConstruct H o nested _ h (str "$else") [] = _
  rw [doConstruct, if_neg (by decide), if_pos rfl, if_neg (in_block c b stk es km)]
  rfl

theorem execTok_endif :
    execTok H o nested (withTop c (b :: stk) es km) h endifTk = .ok (withTop b stk es km, h, none) := by
  show doConstruct H o nested _ h (str "$endif") [] = _
  rw [doConstruct, if_neg (by decide), if_neg (by decide), if_pos rfl, if_neg (in_block c b stk es km)]
  rfl

end

mutual
  theorem run_blk (b : Blk) (hw : b.wf = true) : ∀ (c : Bool) (stk : List Bool) (es : List EKind) (s : Str × σ),
      runToks H o nested b.flat (withTop c stk es s.1) s.2 =
        match b.specIn H o nested c s with
        | .error e => .error e
        | .ok s1 => .ok (withTop c stk es s1.1, s1.2) := by
    intro c stk es s
    cases b with
    | tok t =>
      simp only [Blk.wf, Bool.not_eq_true'] at hw
      cases c with
      | false =>
        rw [Blk.flat, runToks, execTok_inactive H o nested _ s.2 t hw rfl]
        rfl
      | true =>
        rw [Blk.flat, runToks, execTok_active H o nested (withTop true stk es s.1) s.2 t hw rfl]
        simp only [Blk.specIn, effect, if_true, withTop]
        cases execTok H o nested (fresh s.1) s.2 t <;> rfl
    | ite test t f =>
      simp only [Blk.wf, Bool.and_eq_true] at hw
      simp only [Blk.flat, List.append_assoc, List.cons_append, List.nil_append, Blk.specIn, runToks, execTok_if,
        runToks_append]
      rw [run_blks t hw.1 (evalIf o test) (c :: stk) es s]
      cases specInL H o nested (evalIf o test) t s with
      | error e => rfl
      | ok s1 =>
        simp only [execTok_else]
        rw [run_blks f hw.2 (!evalIf o test) (c :: stk) es s1]
        cases specInL H o nested (!evalIf o test) f s1 with
        | error e => rfl
        | ok s2 => simp only [execTok_endif]
  theorem run_blks (bs : List Blk) (hw : wfL bs = true) :
      ∀ (c : Bool) (stk : List Bool) (es : List EKind) (s : Str × σ),
      runToks H o nested (flatL bs) (withTop c stk es s.1) s.2 =
        match specInL H o nested c bs s with
        | .error e => .error e
        | .ok s1 => .ok (withTop c stk es s1.1, s1.2) := by
    intro c stk es s
    cases bs with
    | nil => rfl
    | cons b bs =>
      simp only [wfL, Bool.and_eq_true] at hw
      simp only [flatL, runToks_append, specInL]
      rw [run_blk b hw.1 c stk es s]
      cases b.specIn H o nested c s with
      | error e => rfl
      | ok s1 => exact run_blks bs hw.2 c stk es s1
end

-- programs in which no block is nested inside an inactive block (`flat`: of the conditions; not `Blk.flat`)
mutual
  def Blk.flatOK (on : Bool) : Blk → Bool
    | .tok _ => true
    | .ite test t f => on && flatOKL (on && evalIf o test) t && flatOKL (on && !evalIf o test) f
  def flatOKL (on : Bool) : List Blk → Bool
    | [] => true
    | b :: bs => b.flatOK on && flatOKL on bs
end

mutual
  theorem specIn_eq_spec_blk (b : Blk) : ∀ (on : Bool) (s : Str × σ), b.flatOK o on = true →
      b.specIn H o nested on s = b.spec H o nested on s := by
    intro on s h
    cases b with
    | tok t => rfl
    | ite test t f =>
      simp only [Blk.flatOK, Bool.and_eq_true] at h
      obtain ⟨⟨hon, ht⟩, hf⟩ := h
      subst hon
      simp only [Bool.true_and] at ht hf
      -- the second branch is rewritten inside the arm of the `match` on the result of the first
      simp only [Blk.specIn, Blk.spec, Bool.true_and, specIn_eq_spec_blks t _ _ ht, specIn_eq_spec_blks f _ _ hf]
  theorem specIn_eq_spec_blks (bs : List Blk) : ∀ (on : Bool) (s : Str × σ), flatOKL o on bs = true →
      specInL H o nested on bs s = specL H o nested on bs s := by
    intro on s h
    cases bs with
    | nil => rfl
    | cons b bs =>
      simp only [flatOKL, Bool.and_eq_true] at h
      simp only [specInL, specL, specIn_eq_spec_blk b _ _ h.1, specIn_eq_spec_blks bs _ _ h.2]
end

end
end RLV.Inputrc
