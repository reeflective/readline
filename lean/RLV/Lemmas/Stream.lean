import RLV.Model.Utf8
import RLV.Lemmas.Dispatch
/-! The whole stream of typed keys, dispatch after dispatch (C05): the reference run `canon`, which knows the whole
stream at once, against what the main loop knows between two dispatches (`AS`, `Inv`). The only state a cut of the
stream leaves behind is the remembered shorter bind, and a clean dispatch finds it again (`dispatch_stale`, at the end
of Lemmas/Dispatch). -/
namespace RLV.Stream

/-- abstract state: the part of the main loop's state (`MLoop.LS`) the reference run depends on; `MLoop.obs`
(Lemmas/StreamLoop) projects to it -/
structure AS where
  buf : Seq
  wait : Bool
  prefixed : Bind
  log : List (String × List Nat)
  done : Bool
deriving Repr

variable (tbl : List (Seq × Bind)) (acc : Bind → Bool)

/-- the reference run: every dispatch from a clean dispatcher, until the line is accepted (`acc b`: the command bound
to `b` accepts it) or the keys left are a prefix (or none) -/
def canon (buf : Seq) (l : List (String × List Nat)) (d : Bool) : List (String × List Nat) × Bool :=
  if d then (l, d) else if _ : buf = [] then (l, d) else
  let r := dispatch tbl buf [] [] false Bind.none Bind.none
  if _ : r.pfx then (l, d)
  else canon r.rest (l ++ [(r.bind.action, runesOfBytes r.read)]) (d || acc r.bind)
termination_by buf.length
decreasing_by
  next hb hp => exact (dispatch_progress tbl buf [] [] false Bind.none Bind.none hb).1 (Bool.eq_false_iff.mpr hp)

theorem canon_done (buf : Seq) (l : List (String × List Nat)) : canon tbl acc buf l true = (l, true) := by
  rw [canon, if_pos rfl]

theorem canon_nil (l : List (String × List Nat)) (d : Bool) : canon tbl acc [] l d = (l, d) := by
  rw [canon, dif_pos rfl, ite_self]

theorem canon_pfx (buf : Seq) (l : List (String × List Nat)) (d : Bool)
    (hp : (dispatch tbl buf [] [] false Bind.none Bind.none).pfx = true) : canon tbl acc buf l d = (l, d) := by
  rw [canon]
  simp only [hp, dite_eq_ite, if_true, ite_self]

theorem canon_run (buf : Seq) (l : List (String × List Nat)) (r : DResult) (hb : buf ≠ [])
    (hr : dispatch tbl buf [] [] false Bind.none Bind.none = r) (hp : r.pfx = false) :
    canon tbl acc buf l false = canon tbl acc r.rest (l ++ [(r.bind.action, runesOfBytes r.read)]) (acc r.bind) := by
  rw [canon]
  simp only [hb, hr, hp, Bool.false_eq_true, if_false, dite_false, Bool.false_or]

/-- no bind remembered unless the loop waits, and then the keys pushed back are a prefix that a clean dispatch
reports with that bind -/
def Inv (a : AS) : Prop :=
  (a.wait = false → a.prefixed = Bind.none) ∧
  (a.wait = true → a.buf ≠ [] ∧ (dispatch tbl a.buf [] [] false Bind.none Bind.none).pfx = true ∧
    (dispatch tbl a.buf [] [] false Bind.none Bind.none).prefixed = a.prefixed)

/-- the dispatch the next iteration performs is a clean one -/
def Clean (a : AS) : Prop :=
  dispatch tbl a.buf [] [] false a.prefixed Bind.none = dispatch tbl a.buf [] [] false Bind.none Bind.none

theorem Inv.clean {a : AS} (hi : Inv tbl a) (hw : a.wait = false) : Clean tbl a := by
  unfold Clean
  rw [hi.1 hw]

theorem Inv.clean_read {a : AS} (hi : Inv tbl a) (c : Seq) : Clean tbl { a with buf := a.buf ++ c } := by
  unfold Clean
  cases hw : a.wait with
  | false => rw [hi.1 hw]
  | true =>
    obtain ⟨hne, hp, hq⟩ := hi.2 hw
    rw [← hq]
    exact dispatch_stale tbl a.buf [] [] false Bind.none Bind.none _ c hne rfl hp

theorem canon_blocked (a : AS) (hi : Inv tbl a) (h : a.buf = [] ∨ a.wait = true) (d : Bool) :
    canon tbl acc a.buf a.log d = (a.log, d) := by
  rcases h with h | h
  · rw [h, canon_nil]
  · exact canon_pfx tbl acc _ _ _ (hi.2 h).2.1

end RLV.Stream
