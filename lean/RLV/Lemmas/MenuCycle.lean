import RLV.Lemmas.MenuSel
/-! Cycling inside one plain group (`menu-complete`, Tab, and `menu-complete-backward`, Shift-Tab), through
the row-major index of the selected candidate; what one move does to that index, in either direction
(`move_step`). -/
namespace RLV.Menu2
open RLV.Core

/-- shape of a plain grid of `n ≥ 1` candidates in rows of `c ≥ 1` (`hlastc` holds of the engine's grids; no proof
reads it) -/
structure Grid (s : Sel) (n c : Nat) : Prop where
  hc : 0 < c
  hR : 0 < s.R
  hrows : ∀ y, y + 1 < s.R → s.rows y = c
  hlast : s.rows (s.R - 1) + (s.R - 1) * c = n
  hlast1 : 0 < s.rows (s.R - 1)
  hlastc : s.rows (s.R - 1) ≤ c

def idx (s : Sel) (c : Nat) : Int := s.y * c + s.x

/-- one Tab in a single plain group: move, and on `done` go to the first cell -/
def tab (s : Sel) : G Sel := do
  let (s', done, _) ← move s 1 0
  pure (if done then { s' with x := 0, y := 0 } else s')

def tabs : Nat → Sel → G Sel
  | 0, s => pure s
  | k+1, s => do let s' ← tab s; tabs k s'

/-- one Shift-Tab in a single plain group: move back, and on `done` go to the last cell -/
def tabBack (s : Sel) : G Sel := do
  let (s', done, _) ← move s (-1) 0
  pure (if done then { s' with y := (s.R : Int) - 1, x := (s.rows (s.R - 1) : Int) - 1 } else s')

theorem eq_emod {r a N : Int} (k : Int) (h : 0 ≤ r ∧ r < N ∧ r = a + k * N) : r = a % N := by
  rw [← Int.add_mul_emod_self_right a k N, ← h.2.2, Int.emod_eq_of_lt h.1 h.2.1]

section
variable {s : Sel} {n c : Nat}

theorem Grid.congr {s' : Sel} (g : Grid s n c) (hr : s'.rows = s.rows) (hR : s'.R = s.R) :
    Grid s' n c := by
  obtain ⟨rows, R, _, _, _⟩ := s'
  subst hr hR
  exact ⟨g.hc, g.hR, g.hrows, g.hlast, g.hlast1, g.hlastc⟩

theorem Grid.setCell (g : Grid s n c) (x y : Int) : Grid { s with x := x, y := y } n c :=
  g.congr rfl rfl

/-- The one place where two products are compared; everywhere else `y * c` is an atom for `omega`. -/
theorem Grid.row_end (g : Grid s n c) {y : Int} (h0 : 0 ≤ y) (hR : y < s.R) :
    0 < s.rows y.toNat ∧
      if y + 1 < s.R then (s.rows y.toNat : Int) = c ∧ y * c + c < n else y * c + s.rows y.toNat = n := by
  have hc := g.hc
  have hl := g.hlast
  have hl1 := g.hlast1
  obtain ⟨k, rfl⟩ : ∃ k : Nat, y = k := ⟨y.toNat, by omega⟩
  rw [Int.toNat_natCast]
  split
  next hlt =>
    have hrow := g.hrows k (by omega)
    have hmul : (k + 1) * c ≤ (s.R - 1) * c := Nat.mul_le_mul_right c (by omega)
    rw [Nat.succ_mul] at hmul
    omega
  next =>
    rw [show k = s.R - 1 by omega]
    omega

theorem idx_nonneg (hv : Valid s) : 0 ≤ idx s c :=
  Int.add_nonneg (Int.mul_nonneg hv.2.1 (Int.natCast_nonneg c)) hv.1

theorem idx_lt (g : Grid s n c) (hv : Valid s) : idx s c < n := by
  obtain ⟨_, hy, hyR, hcell⟩ := hv
  have hre := (g.row_end hy hyR).2
  unfold idx
  split at hre <;> omega

/-- the hypothesis is one conjunction so that one `omega` proves it -/
theorem cell_mk {x y k : Int}
    (h : 0 ≤ x ∧ 0 ≤ y ∧ y < s.R ∧ x < s.rows y.toNat ∧ y * c + x = k) :
    Valid { s with x := x, y := y } ∧ idx { s with x := x, y := y } c = k :=
  let ⟨hx, hy, hyR, hcell, hk⟩ := h
  ⟨⟨hx, hy, hyR, hcell⟩, hk⟩

theorem first_cell (g : Grid s n c) : Valid { s with x := 0, y := 0 } ∧ idx { s with x := 0, y := 0 } c = 0 := by
  have hR := g.hR
  have hrow := (g.row_end (y := 0) (by omega) (by omega)).1
  exact cell_mk (by omega)

theorem last_cell (g : Grid s n c) :
    Valid { s with y := (s.R : Int) - 1, x := (s.rows (s.R - 1) : Int) - 1 } ∧
      idx { s with y := (s.R : Int) - 1, x := (s.rows (s.R - 1) : Int) - 1 } c = n - 1 := by
  have hR := g.hR
  have hl := g.hlast
  have hl1 := g.hlast1
  rw [show (s.R : Int) - 1 = (s.R - 1 : Nat) by omega]
  refine cell_mk ?_
  rw [Int.toNat_natCast]
  omega

theorem move_step (g : Grid s n c) (hv : Valid s) {d : Int} (hd : d = 1 ∨ d = -1) :
    (∃ x y, move s d 0 = .ok ({ s with x := x, y := y }, false, false) ∧
        Valid { s with x := x, y := y } ∧ idx { s with x := x, y := y } c = idx s c + d) ∨
    (∃ x y, move s d 0 = .ok ({ s with x := x, y := y }, true, decide (d = 1)) ∧
        (idx s c + d = -1 ∨ idx s c + d = n)) := by
  have hbwd := move_bwd s hv
  obtain ⟨hx, hy, hyR, hcell⟩ := hv
  have hre := (g.row_end hy hyR).2
  have hi : idx s c = s.y * c + s.x := rfl
  rcases hd with rfl | rfl
  · rw [move_fwd s hx hy hyR hcell]
    by_cases h1 : s.x + 1 < s.rows s.y.toNat
    · rw [if_pos h1]
      exact .inl ⟨s.x + 1, s.y, rfl, cell_mk (by omega)⟩
    · rw [if_neg h1]
      by_cases h2 : s.y + 1 < s.R
      · -- the row is full (`hre`): the first cell of the next row, which is not empty
        rw [if_pos h2] at hre ⊢
        have hnext : 0 < s.rows (s.y + 1).toNat := (g.row_end (by omega) (by omega)).1
        have hmul : (s.y + 1) * (c : Int) = s.y * c + c := by rw [Int.add_mul, Int.one_mul]
        exact .inl ⟨0, s.y + 1, rfl, cell_mk (by omega)⟩
      · -- the last cell of the last row: `hre` gives its index
        rw [if_neg h2] at hre ⊢
        exact .inr ⟨0, s.y, rfl, by omega⟩
  · rw [hbwd]
    by_cases h1 : 0 < s.x
    · rw [if_pos h1]
      exact .inl ⟨s.x - 1, s.y, rfl, cell_mk (by omega)⟩
    · rw [if_neg h1]
      by_cases h2 : 0 < s.y
      · -- the last cell of the row above, which is full
        rw [if_pos h2]
        have habove : s.rows (s.y - 1).toNat = c := g.hrows (s.y - 1).toNat (by omega)
        have hc := g.hc
        have hmul : (s.y - 1) * (c : Int) = s.y * c - c := by rw [Int.sub_mul, Int.one_mul]
        exact .inl ⟨(s.rows (s.y - 1).toNat : Int) - 1, s.y - 1, rfl, cell_mk (by omega)⟩
      · rw [if_neg h2]
        have hzero : s.y * (c : Int) = 0 := by rw [show s.y = 0 by omega, Int.zero_mul]
        exact .inr ⟨0, 0, rfl, by omega⟩

end

theorem tab_step {s : Sel} {n c : Nat} (g : Grid s n c) (hv : Valid s) :
    ∃ s', tab s = .ok s' ∧ Valid s' ∧ s'.rows = s.rows ∧ s'.R = s.R ∧
      idx s' c = (if idx s c + 1 = n then 0 else idx s c + 1) ∧ idx s c < n := by
  have hlt := idx_lt g hv
  obtain ⟨x, y, hm, hv', hi⟩ | ⟨x, y, hm, hw⟩ := move_step g hv (.inl rfl)
  · have hlt' := idx_lt (g.setCell x y) hv'
    refine ⟨_, ?_, hv', rfl, rfl, ?_, hlt⟩
    · rw [tab, hm]
      rfl
    · rw [hi, if_neg (by omega)]
  · -- `done`, from the last candidate
    have h0 := idx_nonneg hv (c := c)
    refine ⟨_, ?_, (first_cell g).1, rfl, rfl, ?_, hlt⟩
    · rw [tab, hm]
      rfl
    · rw [if_pos (by omega)]
      exact (first_cell g).2

theorem tabs_index {n c : Nat} : ∀ (k : Nat) (s : Sel), Grid s n c → Valid s →
    ∃ s', tabs k s = .ok s' ∧ Valid s' ∧ Grid s' n c ∧ idx s' c = ((idx s c + k) % n) := by
  intro k
  induction k with
  | zero =>
    intro s g hv
    exact ⟨s, rfl, hv, g, eq_emod 0 ⟨idx_nonneg hv, idx_lt g hv, by omega⟩⟩
  | succ k ih =>
    intro s g hv
    refine bind_spec _ (tab_step g hv) fun s1 ⟨hv1, hr, hR, hi, _⟩ => ?_
    refine (ih s1 (g.congr hr hR) hv1).imp fun s2 ⟨h2, hv2, g2, hi2⟩ => ⟨h2, hv2, g2, ?_⟩
    rw [hi2, hi, Int.natCast_add, Int.natCast_one]
    split
    next hw => rw [show idx s c + ((k : Int) + 1) = 0 + k + 1 * n by omega, Int.add_mul_emod_self_right]
    next =>
      congr 1
      omega

theorem tabBack_step {s : Sel} {n c : Nat} (g : Grid s n c) (hv : Valid s) :
    ∃ s', tabBack s = .ok s' ∧ Valid s' ∧
      idx s' c = (if idx s c = 0 then (n : Int) - 1 else idx s c - 1) := by
  obtain ⟨x, y, hm, hv', hi⟩ | ⟨x, y, hm, hw⟩ := move_step g hv (.inr rfl)
  · have h0 := idx_nonneg hv' (c := c)
    refine ⟨_, ?_, hv', ?_⟩
    · rw [tabBack, hm]
      rfl
    · rw [hi, if_neg (by omega)]
      rfl
  · -- `done`, from the first candidate
    have hlt := idx_lt g hv
    refine ⟨_, ?_, (last_cell g).1, ?_⟩
    · rw [tabBack, hm]
      rfl
    · rw [if_pos (by omega)]
      exact (last_cell g).2

end RLV.Menu2
