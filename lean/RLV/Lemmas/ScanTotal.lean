import RLV.Model.Scan
import RLV.Lemmas.G
/-! The line scanner never indexes or slices out of range (C12): every function of `Model/Scan`
returns `.ok _` on every rune array, with the position bounds the next stage relies on. -/
namespace RLV.Inputrc
open RLV.Core (G Panic Ok ok_bind pure_eq bind_spec)

theorem idx_eq (r : RS) (i : Nat) (h : i < r.size) : idx r i = .ok r[i] := by
  rw [idx, dif_pos h, pure_eq]

theorem sliceS_ok (r : RS) (a b : Nat) (h1 : a ≤ b) (h2 : b ≤ r.size) : Ok (sliceS r a b) := by
  rw [sliceS, if_pos ⟨h1, h2⟩]
  exact .ret _

theorem isSpaceU_zero : isSpaceU 0 = false := by decide +kernel

theorem grabA_eq {r : RS} {i e : Nat} (h : i < e) (he : e ≤ r.size) : grabA r i e = r[i] := by
  rw [grabA, if_pos h]
  exact (Array.getElem_eq_getD 0).symm

section
variable (r : RS) (e : Nat) (he : e ≤ r.size)

/-- What a scanning loop `F` does with the fuel `e + 1` that every caller gives it: it ends inside the range, at a
place from which it does not move again. -/
structure Scans (F : Nat → Nat → G Nat) : Prop where
  run : ∀ i, i ≤ e → ∃ v, F (e + 1) i = .ok v ∧ i ≤ v ∧ v ≤ e
  idem : ∀ {i v}, i ≤ e → F (e + 1) i = .ok v → F (e + 1) v = .ok v

include he

theorem Scans.of_loop (F : Nat → Nat → G Nat) (stop : Nat → Bool) (h0 : ∀ i, F 0 i = pure i)
    (hF : ∀ f i, F (f + 1) i =
      if i < e then idx r i >>= fun c => if stop c then pure i else F f (i + 1) else pure i) :
    Scans e F := by
  have gen : ∀ f i, i ≤ e → e ≤ i + f → ∃ v, F f i = .ok v ∧ i ≤ v ∧ v ≤ e ∧ F (e + 1) v = .ok v := by
    intro f
    induction f with
    | zero =>
      intro i hi h
      have hie : ¬ i < e := by omega
      exact ⟨i, h0 i, Nat.le_refl _, hi, (hF e i).trans (if_neg hie)⟩
    | succ f ih =>
      intro i hi h
      by_cases hlt : i < e
      · -- the step at `i`, with the fuel at hand and with the callers'
        have step : ∀ g, F (g + 1) i = if stop r[i] then pure i else F g (i + 1) := by
          intro g
          rw [hF, if_pos hlt, idx_eq r i (by omega), ok_bind]
        cases hs : stop r[i] with
        | true => exact ⟨i, (step f).trans (if_pos hs), Nat.le_refl _, hi, (step e).trans (if_pos hs)⟩
        | false =>
          obtain ⟨v, h1, h2, h3⟩ := ih (i + 1) hlt (by omega)
          exact ⟨v, (step f).trans ((if_neg (Bool.eq_false_iff.mp hs)).trans h1), by omega, h3⟩
      · exact ⟨i, (hF f i).trans (if_neg hlt), Nat.le_refl _, hi, (hF e i).trans (if_neg hlt)⟩
  refine ⟨fun i hi => ?_, fun {i v} hi hv => ?_⟩
  · obtain ⟨v, h, h1, h2, _⟩ := gen (e + 1) i hi (by omega)
    exact ⟨v, h, h1, h2⟩
  · obtain ⟨v', h, _, _, h3⟩ := gen (e + 1) i hi (by omega)
    obtain rfl : v' = v := Except.ok.inj (h.symm.trans hv)
    exact h3

theorem findNonSpace_scans : Scans e (findNonSpace r e) :=
  .of_loop r e he _ (!isSpaceU ·) (fun _ => rfl) fun f i => by
    rw [findNonSpace]
    refine ite_congr rfl (fun _ => bind_congr fun c => ?_) fun _ => rfl
    cases isSpaceU c <;> rfl

theorem findEnd_scans : Scans e (findEnd r e) := .of_loop r e he _ endTok (fun _ => rfl) fun _ _ => rfl

theorem keyEnd_scans : Scans e (keyEnd r e) := .of_loop r e he _ endKey (fun _ => rfl) fun _ _ => rfl

theorem seekColon_scans : Scans e (seekColon r e) :=
  .of_loop r e he _ (· == 0x3a) (fun _ => rfl) fun f i => by
    rw [seekColon]
    refine ite_congr rfl (fun _ => bind_congr fun c => ?_) fun _ => rfl
    rw [bne]
    cases c == 0x3a <;> rfl

theorem stringEndLoop_bound (q f p : Nat) :
    ∃ x, stringEndLoop r e q f p = .ok x ∧ (x.2 = true → p < x.1 ∧ x.1 ≤ e) := by
  fun_induction stringEndLoop r e q f p with
  | case1 => exact ⟨_, rfl, nofun⟩
  | case2 _ p hp ih2 ih1 =>
    -- inside the range: on after an escaped rune (`ih2`), stop at the quote, on after any other rune (`ih1`)
    obtain ⟨x2, h2, hb2⟩ := ih2
    obtain ⟨x1, h1, hb1⟩ := ih1
    rw [idx_eq r p (by omega), ok_bind]
    split
    · exact ⟨x2, h2, fun hb => (hb2 hb).imp_left fun _ => by omega⟩
    · split
      · exact ⟨(p + 1, true), rfl, fun _ => by omega⟩
      · exact ⟨x1, h1, fun hb => (hb1 hb).imp_left fun _ => by omega⟩
  | case3 => exact ⟨_, rfl, nofun⟩

theorem findStringEnd_bound (pos : Nat) (hp : pos < e) :
    ∃ x, findStringEnd r pos e = .ok x ∧ (x.2 = true → pos + 1 < x.1 ∧ x.1 ≤ e) := by
  rw [findStringEnd, idx_eq r pos (by omega), ok_bind]
  exact stringEndLoop_bound r e he r[pos] (e + 1) (pos + 1)

theorem unescRange_ok (i : Nat) : Ok (unescRange r i e) := by
  unfold unescRange
  refine .unless fun _ => .unless fun _ => ?_
  exact .seq (sliceS_ok r i e (by omega) he) fun _ => .ret _

theorem readSymbols_ok (pos : Nat) (tok : Tok) (allow : Bool) (hp : pos ≤ e) :
    Ok (readSymbols r pos e tok allow) := by
  unfold readSymbols
  obtain ⟨s1, h1, h1a, h1b⟩ := (findNonSpace_scans r e he).run pos hp
  obtain ⟨p1, h2, h2a, h2b⟩ := (findEnd_scans r e he).run s1 h1b
  obtain ⟨s2, h4, h4a, h4b⟩ := (findNonSpace_scans r e he).run p1 h2b
  refine .bind h1 (.bind h2 (.seq (sliceS_ok r s1 p1 h2a (by omega)) fun _ => .bind h4 ?_))
  -- the value ends after the closing quote if there is one (and strings are allowed), else at the next blank
  refine .bind_spec (fun x => x.1 = true → s2 ≤ x.2 ∧ x.2 ≤ e) ?_ fun ⟨ok, p2⟩ hx => ?_
  · split
    next hc =>
      -- a quote at `s2`
      refine bind_spec _ (findStringEnd_bound r e he s2 hc.1) fun ⟨ep, o⟩ h5b =>
        ⟨_, rfl, fun (ho : o = true) => ?_⟩
      subst ho
      have hep := h5b rfl
      show s2 ≤ ep ∧ ep ≤ e
      omega
    next => exact ⟨(false, p1), rfl, fun h => absurd h Bool.false_ne_true⟩
  · refine .bind_spec (fun p3 => s2 ≤ p3 ∧ p3 ≤ e) ?_ fun p3 h3 => ?_
    · split
      next => exact (findEnd_scans r e he).run s2 h4b
      next hok =>
        -- strings allowed and one found
        have hok' : ok = true := by
          cases ok with
          | true => rfl
          | false => exact absurd (Bool.or_true _) hok
        exact ⟨p2, rfl, hx hok'⟩
    · exact .seq (sliceS_ok r s2 p3 h3.1 (by omega)) fun _ => .ret _

theorem decodeKey_bound (pos : Nat) (hp : pos ≤ e) :
    ∃ v, decodeKey r pos e = .ok v ∧ ∀ k np, v = .ok (k, np) → np ≤ e := by
  unfold decodeKey
  obtain ⟨p, h1, h1a, h1b⟩ := (keyEnd_scans r e he).run pos hp
  obtain ⟨raw, h2⟩ := sliceS_ok r pos p h1a (by omega)
  simp only [h1, h2, ok_bind, pure_eq]
  split
  · -- an unknown modifier: an error value, no position
    exact ⟨_, rfl, fun _ _ h => nomatch h⟩
  · -- every other leaf (no key name; Control-Meta; one key) carries the position `p`
    have leaf : ∀ k, ∃ v, (.ok (.ok (k, p)) : G (Except PErr (List Nat × Nat))) = .ok v ∧
        ∀ k np, v = .ok (k, np) → np ≤ e := by
      refine fun _ => ⟨_, rfl, fun _ _ h => ?_⟩
      cases h
      exact h1b
    split
    · exact leaf _
    · split <;> exact leaf _

theorem readAction_ok (ks : List Nat) (p : Nat) (hp : p ≤ e) : Ok (readAction r e ks p) := by
  unfold readAction
  obtain ⟨c, h1, _, h1b⟩ := (seekColon_scans r e he).run p hp
  refine .bind h1 (.unless fun hce => ?_)
  have hc : c < e := Nat.lt_of_le_of_ne h1b (mt beq_iff_eq.mpr hce)
  refine .bind (idx_eq r c (by omega)) (.unless fun _ => ?_)
  obtain ⟨q, h2, _, h2b⟩ := (findNonSpace_scans r e he).run (c + 1) hc
  refine .bind h2 (.unless fun hqe => ?_)
  have hq : q < e := Nat.lt_of_le_of_ne h2b (mt beq_iff_eq.mpr hqe)
  refine .bind (idx_eq r q (by omega)) (.unless fun _ => .cases (fun _ => ?_) fun _ => ?_)
  · obtain ⟨⟨ep, ok⟩, h3, h3b⟩ := findStringEnd_bound r e he q hq
    refine .bind h3 ?_
    cases ok with
    | false => exact .ret _
    | true =>
      have hep := h3b rfl
      exact .seq (unescRange_ok r (ep - 1) (by omega) (q + 1)) fun _ => .ret _
  · obtain ⟨e2, h4, h4a, h4b⟩ := (findEnd_scans r e he).run q (by omega)
    exact .bind h4 (.seq (sliceS_ok r q e2 h4a (by omega)) fun _ => .ret _)

theorem readNext_ok (pos : Nat) (hp : pos < e) (h1 : findNonSpace r e (e + 1) pos = .ok pos) :
    Ok (readNext r pos e) := by
  unfold readNext
  -- `readNext` skips blanks again where `scanLine` has already skipped them; `h1`: it stays at `pos`, inside the range
  refine .bind h1 (.bind (idx_eq r pos (by omega)) (.cases (fun hset => ?_) fun _ => .cases (fun _ => ?_) fun _ =>
    .cases (fun _ => ?_) fun _ => ?_))
  · -- `set` followed by a blank: the blank is inside the range, since `grab` gives NUL beyond it
    have h3 : pos + 3 < e := by
      refine Decidable.byContradiction fun hcon => ?_
      have h4 : isSpaceU (grabA r (pos + 3) e) = true := (Bool.and_eq_true_iff.mp hset).2
      rw [grabA, if_neg hcon, isSpaceU_zero] at h4
      cases h4
    exact .seq (readSymbols_ok r e he (pos + 4) .set true (by omega)) fun _ => .ret _
  · exact .seq (readSymbols_ok r e he pos .construct false (by omega)) fun _ => .ret _
  · obtain ⟨⟨ep, ok⟩, h3, h3b⟩ := findStringEnd_bound r e he pos hp
    refine .bind h3 ?_
    cases ok with
    | false => exact .ret _
    | true =>
      have hep := h3b rfl
      exact .seq (unescRange_ok r (ep - 1) (by omega) (pos + 1)) fun _ => readAction_ok r e he _ ep hep.2
  · obtain ⟨dk, hdk, hb⟩ := decodeKey_bound r e he pos (by omega)
    refine .bind hdk ?_
    match dk, hb with
    | .error er, _ => exact .ret _
    | .ok (k, np), hb => exact readAction_ok r e he k np (hb k np rfl)

end

theorem scanLine_ok (r : RS) : Ok (scanLine r) := by
  unfold scanLine
  have hsc := findNonSpace_scans r r.size (Nat.le_refl _)
  obtain ⟨p, h1, _, h1b⟩ := hsc.run 0 (Nat.zero_le _)
  refine .bind h1 (.unless fun hpe => ?_)
  have hp : p < r.size := Nat.lt_of_le_of_ne h1b (mt beq_iff_eq.mpr hpe)
  refine .bind (idx_eq r p hp) (.unless fun _ => ?_)
  exact .seq (readNext_ok r r.size (Nat.le_refl _) p hp (hsc.idem (Nat.zero_le _) h1)) fun _ => .ret _

end RLV.Inputrc
