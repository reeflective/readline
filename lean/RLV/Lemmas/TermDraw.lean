import RLV.Lemmas.TermMoves
/-! For text, `EL0`, `EL1` and `ED0`: where the token leaves the cursor (`Term.At`) and which cells it rewrites
(`Term.Seg`). -/
namespace RLV.Term
open RLV.Disp

/-- no wrap pending: the next glyph goes to the cursor cell -/
structure At (t : Term) (w x y : Nat) : Prop extends Pos t w x y where
  pw : t.pw = false

theorem At.WF {t : Term} {w x y : Nat} (h : At t w x y) (hx : x < w) : t.WF := by
  rw [Term.WF, h.w, h.x, h.pw]
  exact ⟨Nat.zero_lt_of_lt hx, hx, nofun⟩

theorem At.L_eq {t : Term} {w x y : Nat} (h : At t w x y) : t.L = y * w + x := by
  rw [Term.L, nx, ny, h.pw, h.x, h.y, h.w]
  rfl

theorem At.moves {t : Term} {w x y x' y' : Nat} {q : List Tk} (h : At t w x y) (m : Moves w q (x, y) (x', y')) :
    At (t.run q) w x' y' ∧ (t.run q).lin = t.lin :=
  have ⟨a, l, p⟩ := m t h.toPos
  ⟨⟨a, p h.pw⟩, l⟩

theorem At.crlf {t : Term} {w x y : Nat} (h : At t w x y) : At t.crlf w 0 (y + 1) :=
  ⟨⟨h.w, rfl, congrArg (· + 1) h.y⟩, rfl⟩

theorem not_margin {w n : Nat} (h : n < w) : (n % w == 0 && decide (n > 0)) = false := by
  rw [Nat.mod_eq_of_lt h]
  cases n <;> rfl

/-- The `CRLF` is under the condition the redisplay tests (`atMargin` in `Disp.displayLine`, `Disp.refresh`): the text
ended on the last column of a row (column 0 with nothing printed is not that), when printing leaves the wrap pending. -/
theorem text_at {t : Term} {w x y : Nat} (h : At t w x y) (hx : x < w) (gs : List Nat) :
    let t' := (t.puts gs).run (if (gs.length + x) % w == 0 && gs.length + x > 0 then [.crlf] else [])
    At t' w ((gs.length + x) % w) (y + (gs.length + x) / w) ∧
    Seg t.lin t'.lin (y * w + x) gs.length (gs.getD · blank) := by
  obtain ⟨wf, hL, hseg⟩ := puts_lin gs blank t (h.WF hx)
  have hw := (puts_w gs t).trans h.w
  have hL' : (t.puts gs).L = y * w + (gs.length + x) := by
    rw [hL, h.L_eq]
    omega
  obtain ⟨hny, hnx⟩ := L_div_mod _ wf
  obtain ⟨hd, hm⟩ := mul_add_div_mod w y (gs.length + x) (by omega)
  rw [hw, hL', hd] at hny
  rw [hw, hL', hm] at hnx
  have hp : ((gs.length + x) % w == 0 && decide (gs.length + x > 0)) = (t.puts gs).pw := by
    cases gs with
    | nil =>
      rw [puts_nil, h.pw, List.length_nil, Nat.zero_add]
      exact not_margin hx
    | cons g gs =>
      have hpos : (g :: gs).length + x > 0 := Nat.add_pos_left (Nat.succ_pos gs.length) x
      rw [puts_pw (g :: gs) (List.cons_ne_nil _ _) t, ← hnx, decide_eq_true hpos, Bool.and_true]
      rfl
  rw [h.L_eq] at hseg
  rw [hp, hny, hnx, nx, ny]
  -- the cursor is then where the next glyph would have gone: by computation once `pw` is known
  cases hpw : (t.puts gs).pw with
  | false => exact ⟨⟨⟨hw, rfl, rfl⟩, hpw⟩, hseg⟩
  | true => exact ⟨⟨⟨hw, rfl, rfl⟩, rfl⟩, hseg⟩

theorem text_short {t : Term} {w x y : Nat} (h : At t w x y) (gs : List Nat) (hlt : gs.length + x < w) :
    At (t.puts gs) w (gs.length + x) y ∧ Seg t.lin (t.puts gs).lin (y * w + x) gs.length (gs.getD · blank) := by
  have ht := text_at h (by omega) gs
  rw [not_margin hlt, Nat.mod_eq_of_lt hlt, Nat.div_eq_of_lt hlt] at ht
  exact ht

theorem el0_at {t : Term} {w x y : Nat} (h : At t w x y) (hx : x < w) :
    At t.el0 w x y ∧ Seg t.lin t.el0.lin (y * w + x) (w - x) (fun _ => blank) := by
  refine ⟨⟨⟨h.w, h.x, h.y⟩, h.pw⟩, fun i => ?_⟩
  have lo := lin_le_iff (w := w) (x := x) (y := y) (by omega) (by omega) i
  have hi := lin_le_iff (w := w) (x := 0) (y := y + 1) (by omega) (by omega) i
  rw [Nat.add_mul, Nat.one_mul] at hi
  show (if i / t.w = t.y ∧ t.x ≤ i % t.w then blank else t.lin i) = _
  rw [h.w, h.x, h.y]
  exact ite_cond_congr (propext (by omega))

theorem el1_at {t : Term} {w x y : Nat} (h : At t w x y) (hx : x < w) :
    At t.el1 w x y ∧ Seg t.lin t.el1.lin (y * w) (x + 1) (fun _ => blank) := by
  refine ⟨⟨⟨h.w, h.x, h.y⟩, h.pw⟩, fun i => ?_⟩
  have lo := lin_le_iff (w := w) (x := 0) (y := y) (by omega) (by omega) i
  have hi := lin_le_iff (w := w) (x := x + 1) (y := y) (by omega) (by omega) i
  show (if i / t.w = t.y ∧ i % t.w ≤ t.x then blank else t.lin i) = _
  rw [h.w, h.x, h.y]
  exact ite_cond_congr (propext (by omega))

/-- The model erases from the cursor whether or not a wrap is pending, so `Pos` is enough (`accept_run`,
Lemmas/AcceptFrame, starts from a state of which no more is known). -/
theorem ed0_lin {t : Term} {w x y : Nat} (h : Pos t w x y) (hxw : x < w) (i : Nat) :
    t.ed0.lin i = if y * w + x ≤ i then blank else t.lin i := by
  have lo := lin_le_iff (w := w) (x := x) (y := y) (by omega) (by omega) i
  show (if (i / t.w = t.y ∧ t.x ≤ i % t.w) ∨ t.y < i / t.w then blank else t.lin i) = _
  rw [h.w, h.x, h.y]
  exact ite_cond_congr (propext (by omega))

theorem Pos.ed0 {t : Term} {w x y : Nat} (h : Pos t w x y) : Pos t.ed0 w x y := ⟨h.w, h.x, h.y⟩

end RLV.Term
