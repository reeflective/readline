import RLV.Model.Keys
import RLV.Lemmas.Dispatch
/-! What the typed-text theorems need of the main keymap (the table clauses of `TableOK` in Lemmas/Loop, and `HighTbl`),
as a test linear in the table (`typedOK`), in whatever order the table is. -/
namespace RLV.Gen

/-- `norm` without the sort -/
def normU (tbl : List (List Nat × Bind)) : List (Seq × Bind) :=
  tbl.map fun e => (utf8 (convertMeta e.1), e.2)

/-- the bytes of U+FFFD, which the default keymaps bind to `self-insert` -/
def fffd : Seq := [0xEF, 0xBF, 0xBD]

end RLV.Gen

namespace RLV.Loop
open RLV.Gen

def selfIns : Bind := ⟨"self-insert", false⟩
def acceptB : Bind := ⟨"accept-line", false⟩

def printable (b : Nat) : Prop := 0x20 ≤ b ∧ b ≤ 0x7e

/-- above 0x7F the table binds U+FFFD and nothing else (so do the default keymaps) -/
structure HighTbl (tbl : List (Seq × Bind)) : Prop where
  only : ∀ e ∈ tbl, 0x80 ≤ e.1.headD 0 → e.1 = fffd
  has : ∃ e ∈ tbl, e.1 = fffd

theorem norm_perm (tbl : List (List Nat × Bind)) : (norm tbl).Perm (normU tbl) := by
  unfold norm normU
  have h := (List.mergeSort_perm (tbl.map fun e => (utf8 e.1, e)) (fun a b => seqLe a.1 b.1)).map
    (fun e => (utf8 (convertMeta e.2.1), e.2.2))
  rw [List.map_map] at h
  exact h

def entryOK (e : Seq × Bind) : Bool :=
  match e.1 with
  | [] => true
  | b :: t =>
    if 0x20 ≤ b ∧ b ≤ 0x7e then t.isEmpty && e.2 == selfIns
    else if b = 13 then t.isEmpty && e.2 == acceptB
    else decide (b < 0x80) || e.1 == fffd

theorem entryOK_cons {e : Seq × Bind} {b : Nat} {t : List Nat} (h : entryOK e = true) (hbt : e.1 = b :: t) :
    (printable b → t = [] ∧ e.2 = selfIns) ∧ (b = 13 → t = [] ∧ e.2 = acceptB) ∧ (0x80 ≤ b → e.1 = fffd) := by
  unfold entryOK at h
  rw [hbt] at h ⊢
  unfold printable
  dsimp only at h
  split at h
  next hp =>
    rw [Bool.and_eq_true, List.isEmpty_iff, beq_iff_eq] at h
    exact ⟨fun _ => h, fun h13 => by omega, fun h80 => by omega⟩
  next hp =>
    split at h
    next h13 =>
      rw [Bool.and_eq_true, List.isEmpty_iff, beq_iff_eq] at h
      exact ⟨fun h => absurd h hp, fun _ => h, fun h80 => by omega⟩
    next h13 =>
      refine ⟨fun h => absurd h hp, fun h => absurd h h13, fun h80 => ?_⟩
      rwa [decide_eq_false (Nat.not_lt.mpr h80), Bool.false_or, beq_iff_eq] at h

theorem testBit_foldl_or {α : Type} (f : α → Nat) (b : Nat) (l : List α) : ∀ m,
    (l.foldl (fun m e => m ||| f e) m).testBit b = (m.testBit b || l.any fun e => (f e).testBit b) := by
  induction l with
  | nil =>
    intro m
    rw [List.foldl_nil, List.any_nil, Bool.or_false]
  | cons e t ih =>
    intro m
    rw [List.foldl_cons, ih, Nat.testBit_or, List.any_cons, Bool.or_assoc]

/-- a bit set: one number, so that the kernel, which evaluates lazily, walks the table once and not once per byte
looked up -/
def singles (tbl : List (Seq × Bind)) : Nat :=
  tbl.foldl (fun m e => m ||| match e.1 with | [b] => 1 <<< b | _ => 0) 0

theorem singles_mem {tbl : List (Seq × Bind)} {b : Nat} (h : (singles tbl).testBit b = true) :
    ∃ e ∈ tbl, e.1 = [b] := by
  rw [singles, testBit_foldl_or, Nat.zero_testBit, Bool.false_or, List.any_eq_true] at h
  obtain ⟨e, he, hb⟩ := h
  refine ⟨e, he, ?_⟩
  split at hb
  next c hc =>
    rw [Nat.one_shiftLeft, Nat.testBit_two_pow, decide_eq_true_eq] at hb
    rw [hc, hb]
  next =>
    rw [Nat.zero_testBit] at hb
    cases hb

/-- a printable key or Return starts only its own one-key bind, a byte above 0x7F only U+FFFD (`entryOK`); U+FFFD is
bound, and so is every printable key and Return -/
def typedOK (tbl : List (Seq × Bind)) : Bool :=
  tbl.all entryOK && tbl.any (fun e => e.1 == fffd) &&
  (13 :: (List.range 95).map (0x20 + ·)).all (singles tbl).testBit

theorem typedOK_sound {tbl tbl' : List (Seq × Bind)} (hp : tbl'.Perm tbl) (h : typedOK tbl = true) :
    HighTbl tbl' ∧ (∀ b, printable b → lastExact [b] tbl' = selfIns ∧ hasProperExt [b] tbl' = false) ∧
      (lastExact [13] tbl' = acceptB ∧ hasProperExt [13] tbl' = false) := by
  simp only [typedOK, Bool.and_eq_true, List.all_eq_true, List.any_eq_true, beq_iff_eq] at h
  obtain ⟨⟨hall, x, hx, hxf⟩, hcov⟩ := h
  have hall' : ∀ e ∈ tbl', entryOK e = true := fun e he => hall e (hp.mem_iff.mp he)
  have hsing : ∀ b ∈ 13 :: (List.range 95).map (0x20 + ·), ∃ e ∈ tbl', e.1 = [b] := by
    intro b hb
    obtain ⟨e, he, heb⟩ := singles_mem (hcov b hb)
    exact ⟨e, hp.mem_iff.mpr he, heb⟩
  refine ⟨⟨?_, x, hp.mem_iff.mpr hx, hxf⟩, ?_, ?_⟩
  · intro e he h80
    cases hs : e.1 with
    | nil =>
      rw [hs] at h80
      exact absurd h80 (by decide)
    | cons b t =>
      rw [hs] at h80
      rw [← hs]
      exact (entryOK_cons (hall' e he) hs).2.2 h80
  · intro b hb
    refine lastExact_of_sole (fun e he t ht => (entryOK_cons (hall' e he) ht).1 hb) (hsing b ?_)
    obtain ⟨h1, h2⟩ := hb
    exact List.mem_cons_of_mem _ (List.mem_map.mpr ⟨b - 0x20, List.mem_range.mpr (by omega), by omega⟩)
  · exact lastExact_of_sole (fun e he t ht => (entryOK_cons (hall' e he) ht).2.1 rfl) (hsing 13 List.mem_cons_self)

end RLV.Loop
