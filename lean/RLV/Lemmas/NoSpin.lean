import RLV.Lemmas.MatchOut
import RLV.Lemmas.MLoopEq
/-! The main loop cannot spin (C01): every iteration that does not start by reading the terminal leaves the loop
settled (returned, or about to read the terminal) or strictly decreases `(m3 keys, prefixed bind pending)` in the
lexicographic order — for every bind table, key stack (within `Good`) and macro, whatever the commands do within
`WB`. -/
namespace RLV.MLoop

/-- well-behaved commands: they take keys from the stack (`ReadKey`, `Pop`) and feed keys to it (`Feed`), leave the
dispatcher's prefixed bind alone and register no command under the empty name; nothing else is assumed of them -/
structure WB (C : Cmds) : Prop where
  prefixed : ∀ b c s, (C.run b c s).eng.prefixed = s.eng.prefixed
  keys : ∀ b c s, ∃ t fed, Keys.SameQueues ((Keys.popN t s.eng.keys).feed fed) (C.run b c s).eng.keys
  noEmpty : ∀ b c s, "" ∉ s.eng.registered → "" ∉ (C.run b c s).eng.registered

theorem WB.of_eng_eq {C : Cmds} (h : ∀ b c s, (C.run b c s).eng = s.eng) : WB C := by
  refine { prefixed := fun b c s => ?_, keys := fun b c s => ⟨0, [], ?_⟩, noEmpty := fun b c s hs => ?_ }
  all_goals rw [h]
  · exact ⟨rfl, rfl, rfl, rfl, rfl⟩
  · exact hs

/-- kept by every iteration and every read -/
def Good (s : LS) : Prop := s.eng.keys.Inv ∧ "" ∉ s.eng.registered

/-- 1 while the dispatcher remembers a shorter bind (`prefixed`) -/
def Pr (e : Eng) : Nat := if e.prefixed.action = "" then 0 else 1

theorem runBind_rel (C : Cmds) (hC : WB C) (main : Bool) (b : Bind) (c : Bool) (s : LS) :
    RunRel s.eng.keys (runBind C main b c s).eng.keys ∧
    (runBind C main b c s).eng.prefixed = s.eng.prefixed ∧
    ("" ∉ s.eng.registered → "" ∉ (runBind C main b c s).eng.registered) := by
  fun_cases runBind C main b c s with
  | case1 => exact ⟨RunRel.refl _, rfl, id⟩
  | case2 _ s1 =>
    have h1 : RunRel s.eng.keys s1.eng.keys ∧ s1.eng.prefixed = s.eng.prefixed ∧
        s1.eng.registered = s.eng.registered := by
      cases hm : b.isMacro with
      | false =>
        simp only [s1, hm, Bool.false_eq_true, if_false, and_true]
        exact RunRel.refl _
      | true =>
        simp only [s1, hm, if_true, and_true]
        exact RunRel.feed _ _
    obtain ⟨t, fed, hq⟩ := hC.keys b c s1
    exact ⟨h1.1.trans ((RunRel.popN t _).trans ((RunRel.feed _ fed).trans (RunRel.of_same hq))),
      (hC.prefixed b c s1).trans h1.2.1, fun h => hC.noEmpty b c s1 (h1.2.2 ▸ h)⟩

/-- the loop is settled, or `(m3 keys, Pr)` has decreased lexicographically: the conclusion of C01's `every_iteration_progresses`,
which writes it out -/
def Progress (s s' : LS) : Prop :=
  Settled s' ∨ lt3 (m3 s'.eng.keys) (m3 s.eng.keys) ∨
    (le3 (m3 s'.eng.keys) (m3 s.eng.keys) ∧ Pr s'.eng < Pr s.eng)

/-- the second half of an iteration: `MatchMain`, then (unless it reports a prefix) the bind it selected -/
theorem main_stage (C : Cmds) (hC : WB C) (s2 : LS) (hg2 : Good s2) :
    let r3 := matchMain { s2.eng with lisearch := s2.isearch }
    let s3 : LS := { s2 with eng := r3.1 }
    let s4 := runBind C true r3.2.1 r3.2.2.1 s3
    (r3.2.2.2 = true → Good s3 ∧ Settled s3) ∧
    (r3.2.2.2 = false → Good s4 ∧ (Settled s4 ∨ lt3 (m3 s4.eng.keys) (m3 s2.eng.keys))) := by
  intro r3 s3 s4
  have ⟨hreg3, hout3⟩ : MainOut _ r3.1 r3.2.2.2 := matchMain_out _
  obtain ⟨hrun4, _, hreg4⟩ := runBind_rel C hC true r3.2.1 r3.2.2.1 s3
  obtain ⟨hi3, hi4, _, hp4⟩ := hout3.run hrun4 hg2.1
  have hg3 : Good s3 := ⟨hi3, hreg3 ▸ hg2.2⟩
  refine ⟨fun hp => ⟨hg3, Or.inr (hout3.blocked hp)⟩, fun hp => ⟨⟨hi4, hreg4 hg3.2⟩, ?_⟩⟩
  rcases hp4 hp with hw | hlt | hF
  · exact Or.inl (Or.inr hw)
  · exact Or.inr hlt
  · exact hF.elim

theorem iter_progress_pos (C : Cmds) (hC : WB C) (s : LS) (hg : Good s) (hpos : 0 < s.eng.keys.pending) :
    Good (iter C s) ∧ Progress s (iter C s) := by
  let e0 : Eng := { s.eng with keys := s.eng.keys.flushUsed, lisearch := s.isearch }
  let r1 := matchLocal e0 s.ltbl s.isearch
  let s1 : LS := { s with eng := r1.1 }
  let s2 := runBind C false r1.2.1 r1.2.2.1 s1
  have ⟨hreg1, hcmd1, hout1⟩ : LocalOut e0 r1.1 r1.2.1 r1.2.2.1 r1.2.2.2 :=
    matchLocal_out e0 s.ltbl s.isearch rfl hpos
  obtain ⟨hrun2, hpr2, hreg2⟩ := runBind_rel C hC false r1.2.1 r1.2.2.1 s1
  -- `flushUsed` changes `matched` only: `Keys.Inv` and `m3` of `e0.keys` are those of `s.eng.keys` by unfolding
  obtain ⟨hi1, hi2, hle2, hp2⟩ := hout1.run hrun2 (k := e0.keys) hg.1
  have hg1 : Good s1 := ⟨hi1, hreg1 ▸ hg.2⟩
  have hg2 : Good s2 := ⟨hi2, hreg2 hg1.2⟩
  have hmain := main_stage C hC s2 hg2
  -- the four ways an iteration ends (`e0 r1 s1 s2` as above, `r3 s3` as in `main_stage`)
  fun_cases iter C s with
  | case1 _ _ _ hp =>
    -- a prefix in the local keymap
    exact ⟨hg1, Or.inl (Or.inr (hout1.blocked hp))⟩
  | case2 _ _ _ hp _ hdc =>
    -- the bind of the local keymap ended the call (`hd`) or ran a command (`hc`)
    refine ⟨hg2, hdc.elim (fun hd => Or.inl (Or.inl hd)) fun hc => ?_⟩
    rcases hp2 (Bool.eq_false_iff.mpr hp) with h | h | hst
    · exact Or.inl (Or.inr h)
    · exact Or.inr (Or.inl h)
    · -- the stale prefixed bind, run without consuming any key
      obtain ⟨hpn, hst⟩ := hst (hcmd1 hc hg.2)
      refine Or.inr (Or.inr ⟨hle2, ?_⟩)
      have h0 : Pr s.eng = 1 := if_neg hst
      have h2 : Pr s2.eng = 0 := by
        unfold Pr
        rw [hpr2]
        exact if_pos (congrArg Bind.action hpn)
      rw [h0, h2]
      exact Nat.zero_lt_one
  | case3 _ _ _ _ _ _ _ _ hp =>
    -- a prefix in the main keymap
    exact (hmain.1 hp).imp_right Or.inl
  | case4 _ _ _ _ _ _ _ _ hp =>
    -- the bind of the main keymap was run
    have hstep := hmain.2 (Bool.eq_false_iff.mpr hp)
    exact hstep.imp_right (Or.imp_right fun hlt => Or.inl (lt3_of_lt3_of_le3 hlt hle2))

theorem iter_progress (C : Cmds) (hC : WB C) (s : LS) (hg : Good s) (hns : ¬ Settled s) :
    Good (iter C s) ∧ Progress s (iter C s) :=
  iter_progress_pos C hC s hg <| Nat.pos_of_ne_zero fun hz =>
    Bool.false_ne_true ((not_settled hns).2.symm.trans (needRead_of_idle hz))

/-- induction along the iterations that do not read the terminal; well-founded because `(m3 keys, Pr)` decreases -/
theorem settle_induction (C : Cmds) (hC : WB C) {P : LS → Prop} (base : ∀ s, Good s → Settled s → P s)
    (step : ∀ s, Good s → ¬ Settled s → P (iter C s) → P s) : ∀ s, Good s → P s := by
  have wf := InvImage.wf (fun s : LS => (m3 s.eng.keys, Pr s.eng)) (Prod.lex ⟨lt3, lt3_wf⟩ Nat.lt_wfRel).wf
  intro s
  induction s using wf.induction with
  | _ s ih =>
    intro hg
    by_cases hs : Settled s
    · exact base s hg hs
    · obtain ⟨hg', hp⟩ := iter_progress C hC s hg hs
      apply step s hg hs
      rcases hp with h | h
      · exact base _ hg' h
      · refine ih _ (Prod.lex_def.mpr ?_) hg'
        rcases h with hlt | ⟨hlt | heq, hp⟩
        · exact Or.inl hlt
        · exact Or.inl hlt
        · exact Or.inr ⟨heq, hp⟩

theorem read_good (s : LS) (c : List Nat) (hg : Good s) : Good (read s c) := by
  refine ⟨fun _ => ?_, hg.2⟩
  show 0 ≤ Keys.maxNested
  exact Nat.zero_le _

theorem session_ends_of_blocked (C : Cmds) (hC : WB C) (chunks : List (List Nat))
    (h : ∀ s, Good s → s.done = false → needRead s.eng.keys = true → ∃ f, (session C f chunks s).2 = true) :
    ∀ s, Good s → ∃ f, (session C f chunks s).2 = true :=
  settle_induction C hC
    (fun s hg hs => by
      cases hd : s.done with
      | false => exact h s hg hd (hs.resolve_left (hd ▸ Bool.false_ne_true))
      | true => exact ⟨1, by rw [session_done C hd]⟩)
    fun _ _ hs ⟨f, hf⟩ => ⟨f + 1, by rwa [session_iter C (not_settled hs).1 (not_settled hs).2]⟩

/-- C01 (`call_ends_on_any_finite_input`) -/
theorem session_ends (C : Cmds) (hC : WB C) : ∀ (chunks : List (List Nat)) (s : LS), Good s →
    ∃ f, (session C f chunks s).2 = true
  | [] => session_ends_of_blocked C hC [] fun s _ hd hn => ⟨1, by rw [session_nil C hd hn]⟩
  | [] :: cs => session_ends_of_blocked C hC _ fun s hg hd hn =>
    let ⟨f, hf⟩ := session_ends C hC cs s hg
    ⟨f + 1, by rwa [session_cons_nil C hd hn]⟩
  | (a :: t) :: cs => session_ends_of_blocked C hC _ fun s hg hd hn => by
    -- the read, then the iteration on a stack that holds its keys
    have hpos : 0 < (read s (a :: t)).eng.keys.pending := by
      show 0 < (s.eng.keys.buf ++ a :: t).length + s.eng.keys.mkeys.length
      rw [List.length_append, List.length_cons]
      omega
    obtain ⟨f, hf⟩ := session_ends C hC cs _ (iter_progress_pos C hC _ (read_good s _ hg) hpos).1
    exact ⟨f + 1, by rwa [session_cons_cons C hd hn]⟩

end RLV.MLoop
