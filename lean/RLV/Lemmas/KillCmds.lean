import RLV.Model.Kill
import RLV.Lemmas.Sel
import RLV.Lemmas.TokTotal
/-! The kill commands of Model/Kill.lean (`kill-line`, `backward-kill-line`, `backward-kill-word`,
`kill-whole-line`, `kill-region`) followed by `yank`: what the command removes is what it stores, and yanking
it where the command leaves the cursor restores the buffer (C16). -/
namespace RLV.Kill
open RLV.Core RLV.Sel

theorem find_go_spec (l : Line) (ch : Nat) (fwd : Bool) (f : Nat) (p : Int) (h0 : -1 ≤ p) (h1 : p ≤ len l) :
    find.go l ch fwd f p = -1 ∨ (0 ≤ find.go l ch fwd f p ∧ find.go l ch fwd f p < len l ∧
      if fwd then p < find.go l ch fwd f p else find.go l ch fwd f p < p) := by
  fun_induction find.go l ch fwd f p with
  | case1 | case2 =>
    -- out of fuel, or the next index is outside the line
    exact Or.inl rfl
  | case3 p f p' hstop =>
    -- found at the next index, which `hstop` leaves inside the line
    have hp : p' = if fwd = true then p + 1 else p - 1 := rfl
    right
    cases fwd <;> simp only [Bool.false_eq_true, if_true, if_false, true_and, false_and, not_true_eq_false,
      not_false_eq_true, or_false, false_or] at hp hstop ⊢
    all_goals omega
  | case4 p f p' hstop _ ih =>
    have hp : p' = if fwd = true then p + 1 else p - 1 := rfl
    cases fwd <;> simp only [Bool.false_eq_true, if_true, if_false, true_and, false_and, not_true_eq_false,
      not_false_eq_true, or_false, false_or] at hp hstop ih ⊢
    all_goals omega

theorem find_spec (l : Line) (ch : Nat) (pos : Int) (fwd : Bool) :
    find l ch pos fwd = -1 ∨ (0 ≤ find l ch pos fwd ∧ find l ch pos fwd < len l ∧
      if fwd then pos < find l ch pos fwd else find l ch pos fwd < pos) := by
  have hn := len_nonneg l
  unfold find
  by_cases hl : len l = 0
  · rw [if_pos hl]
    exact Or.inl rfl
  · rw [if_neg hl]
    have hgo := find_go_spec l ch fwd (l.length + 2) (if pos < 0 then 0 else if pos > len l then len l else pos)
      (by omega) (by omega)
    cases fwd <;> simp only [Bool.false_eq_true, if_false, if_true] at hgo ⊢
    all_goals omega

theorem endOfLineAppend_spec (l : Line) (c : Cur) (hl : len l ≠ 0) (h0 : 0 ≤ c.pos) (h1 : c.pos ≤ len l) :
    ∃ c1, endOfLineAppend l c = .ok c1 ∧ c.pos ≤ c1.pos ∧ c1.pos ≤ len l := by
  unfold endOfLineAppend
  simp only [ok_bind, pure_eq, onEmptyLine_spec l c hl h0 h1, decide_eq_true_eq]
  by_cases he : OnEmptyLine l c.pos
  · rw [if_pos he]
    exact ⟨_, rfl, Int.le_of_eq (checkAppend_fix l c h0 h1).symm, (checkAppend_range l c).2.1⟩
  · rw [if_neg he]
    refine ⟨_, rfl, ?_, (checkAppend_range _ _).2.1⟩
    -- the next newline, found from the rune before the cursor on, is at the cursor or after it
    have hnl := find_spec l 10 (c.pos - 1) true
    rw [if_pos rfl] at hnl
    generalize find l 10 (c.pos - 1) true = nl at hnl ⊢
    simp only [checkAppend_pos]
    omega

theorem beginningOfLine_spec (l : Line) (c : Cur) (h0 : 0 ≤ c.pos) :
    ∃ c1, beginningOfLine l c = .ok c1 ∧ 0 ≤ c1.pos ∧ c1.pos ≤ c.pos := by
  unfold beginningOfLine
  have hnl := find_spec l 10 c.pos false
  rw [if_neg Bool.false_ne_true] at hnl
  generalize find l 10 c.pos false = nl at hnl ⊢
  obtain ⟨c', hc', g0, g1, _⟩ := checkCommand_spec l { c with pos := if nl ≠ -1 then nl + 1 else 0 }
  refine ⟨c', hc', g0, ?_⟩
  simp only [checkAppend_pos] at g1
  omega

/-- `write` is `Buffers.Write` -/
theorem write_eq (s : St) (t : List Nat) : write s t = { s with kill := if t.isEmpty then s.kill else t } := by
  unfold write
  split <;> rfl

/-- `curSet` is `Cursor.Set` -/
theorem curSet_pos (l : Line) (c : Cur) (p : Int) : (checkAppend l (curSet l c p)).pos = max 0 (min p (len l)) := by
  unfold curSet
  simp only [checkAppend_pos]
  omega

theorem yank_spec (s : St) (hnz : ∀ c ∈ s.kill, c ≠ 0) :
    yank s = .ok { s with
      line := s.line.take (checkAppend s.line s.cur).pos.toNat ++ s.kill ++
        s.line.drop (checkAppend s.line s.cur).pos.toNat,
      cur := { checkAppend s.line s.cur with pos := (checkAppend s.line s.cur).pos + s.kill.length } } := by
  obtain ⟨h0, h1, _⟩ := checkAppend_range s.line s.cur
  unfold yank
  simp only [insert_spec s.line _ s.kill hnz h0 h1, ok_bind, pure_eq]

/-- what a kill command followed by `yank` is asked to do: either it removed nothing and left the kill
ring alone, or the text it stored is the text it removed and the yank puts the buffer back -/
def Restores (s s1 : St) : Prop :=
  (s1.line = s.line ∧ s1.kill = s.kill) ∨
  (s1.kill ≠ [] ∧ ∃ p : Nat, s.line = s1.line.take p ++ s1.kill ++ s1.line.drop p ∧
    ∃ s2, yank s1 = .ok s2 ∧ s2.line = s.line)

/-- C16 for every kill command at once: `[b, e)` is what `Selection.Pos` returned; for "no selection" nothing is
removed and the cursor is not asked about. The clamp in `hcur` does nothing (`b` is inside the new buffer): it is
there because `checkAppend_pos` and `curSet_pos` give the cursor in that form. -/
theorem Restores.of_cut {s s1 : St} {b e : Int} (hnz : ∀ c ∈ s.line, c ≠ 0) (hr : Range s.line b e)
    (hline : s1.line = s.line.take b.toNat ++ s.line.drop e.toNat)
    (hkill : s1.kill = if (slice s.line b e).isEmpty then s.kill else slice s.line b e)
    (hcur : 0 ≤ b → (checkAppend s1.line s1.cur).pos = max 0 (min b (len s1.line))) : Restores s s1 := by
  have hback := slice_back s.line b e hr.le.1 hr.le.2
  rw [← hline] at hback
  by_cases hem : (slice s.line b e).isEmpty = true
  · rw [if_pos hem] at hkill
    rw [List.isEmpty_iff.mp hem, List.append_nil, List.take_append_drop] at hback
    exact Or.inl ⟨hback, hkill⟩
  · rw [if_neg hem] at hkill
    rw [← hkill] at hback
    -- a text was removed, so there was a range
    obtain ⟨hb, hbe, he⟩ : 0 ≤ b ∧ b ≤ e ∧ e ≤ len s.line := by
      refine hr.resolve_left fun ⟨hb, he⟩ => hem ?_
      rw [hb, he]
      rfl
    have hne : s1.kill ≠ [] := by
      rw [hkill]
      exact fun h => hem (List.isEmpty_iff.mpr h)
    have hsl : ∀ c ∈ s1.kill, c ≠ 0 := by
      intro c hc
      apply hnz
      rw [← hback]
      exact List.mem_append_left _ (List.mem_append_right _ hc)
    refine Or.inr ⟨hne, b.toNat, hback.symm, _, yank_spec s1 hsl, ?_⟩
    have hbl := len_cut s.line b e hb hbe he
    rw [← hline] at hbl
    rw [hcur hb, show max 0 (min b (len s1.line)) = b by omega]
    exact hback

theorem Restores.refl (s : St) : Restores s s := Or.inl ⟨rfl, rfl⟩

/-- `if rl.line.Len() == 0 { return }`, which three of the commands start with -/
theorem Restores.unless_empty {s : St} {g : G St} (h : len s.line ≠ 0 → ∃ s1, g = .ok s1 ∧ Restores s s1) :
    ∃ s1, (if len s.line = 0 then pure s else g) = .ok s1 ∧ Restores s s1 := by
  by_cases hl : len s.line = 0
  · rw [if_pos hl]
    exact ⟨s, rfl, .refl s⟩
  · rw [if_neg hl]
    exact h hl

theorem killLine_yank (s : St) (hnz : ∀ c ∈ s.line, c ≠ 0) :
    ∃ s1, killLine s = .ok s1 ∧ Restores s s1 := by
  unfold killLine
  refine Restores.unless_empty fun hl => ?_
  obtain ⟨h0, h1, _⟩ := checkAppend_range s.line s.cur
  obtain ⟨c1, hc1, hge, hle⟩ := endOfLineAppend_spec s.line (checkAppend s.line s.cur) hl h0 h1
  have hfix : (checkAppend s.line c1).pos = c1.pos := checkAppend_fix s.line c1 (by omega) hle
  have hd := denotes_markRange s.line s.sel c1 (checkAppend s.line s.cur).pos c1.pos hl h0 hge hle
  simp only [ok_bind, pure_eq, hc1, hfix, hd.cut, write_eq]
  exact ⟨_, rfl, .of_cut hnz hd.range rfl rfl fun _ => curSet_pos _ _ _⟩

theorem backwardKillLine_yank (s : St) (hnz : ∀ c ∈ s.line, c ≠ 0) :
    ∃ s1, backwardKillLine s = .ok s1 ∧ Restores s s1 := by
  unfold backwardKillLine
  refine Restores.unless_empty fun hl => ?_
  obtain ⟨h0, h1, _⟩ := checkAppend_range s.line s.cur
  obtain ⟨c1, hc1, hge, hle⟩ := beginningOfLine_spec s.line (checkAppend s.line s.cur) h0
  have hfix : (checkAppend s.line c1).pos = c1.pos := checkAppend_fix s.line c1 hge (by omega)
  have hd := denotes_markRange s.line s.sel c1 c1.pos (checkAppend s.line s.cur).pos hl hge hle h1
  simp only [ok_bind, pure_eq, hc1, hfix, hd.cut, write_eq]
  exact ⟨_, rfl, .of_cut hnz hd.range rfl rfl fun _ => checkAppend_pos _ c1⟩

theorem backwardKillWord_yank (s : St) (hnz : ∀ c ∈ s.line, c ≠ 0) (hvl : s.sel.visualLine = false) :
    ∃ s1, backwardKillWord s = .ok s1 ∧ Restores s s1 := by
  obtain ⟨h0, h1, _⟩ := checkAppend_range s.line s.cur
  unfold backwardKillWord
  generalize checkAppend s.line s.cur = c0 at h0 h1 ⊢
  obtain ⟨adj, hb, hadj⟩ := Tok.backward_spec _ (Tok.tokenize_indexOK s.line c0.pos)
  simp only [ok_bind, pure_eq, hb, write_eq]
  -- the cursor after the movement is at or before the mark
  have hc1r := checkAppend_range s.line { c0 with pos := c0.pos + adj }
  have hc1le : (checkAppend s.line { c0 with pos := c0.pos + adj }).pos ≤ c0.pos := by
    simp only [checkAppend_pos]
    omega
  generalize checkAppend s.line { c0 with pos := c0.pos + adj } = c1 at hc1r hc1le ⊢
  by_cases hl : len s.line = 0
  · rw [cut_empty s.line _ c1 hl]
    exact ⟨_, rfl, Or.inl ⟨rfl, rfl⟩⟩
  · have hc1pos := checkAppend_fix s.line c1 hc1r.1 hc1r.2.1
    have hd := denotes_mark s.line s.sel c1 c0.pos hl hvl (Int.le_trans (Int.le_of_eq hc1pos) hc1le) h1
    rw [hc1pos] at hd
    rw [hd.cut]
    exact ⟨_, rfl, .of_cut hnz hd.range rfl rfl fun _ => checkAppend_pos _ c1⟩

theorem killWholeLine_yank (s : St) (hnz : ∀ c ∈ s.line, c ≠ 0) :
    ∃ s1, killWholeLine s = .ok s1 ∧ Restores s s1 := by
  unfold killWholeLine
  refine Restores.unless_empty fun _ => ?_
  have hn := len_nonneg s.line
  have hcut := cut_spec s.line 0 (len s.line) (Int.le_refl 0) hn (Int.le_refl _)
  simp only [ok_bind, pure_eq, write_eq, hcut]
  -- the whole buffer is the range `[0, len)`; nothing is left, so the checked cursor is at 0
  refine ⟨_, rfl, .of_cut (e := len s.line) hnz (Or.inr ⟨Int.le_refl 0, hn, Int.le_refl _⟩) rfl
    (by rw [slice_all]) fun _ => ?_⟩
  simp only [checkAppend_pos, len_cut s.line 0 (len s.line) (Int.le_refl 0) hn (Int.le_refl _)]
  omega

theorem killRegion_yank (s : St) (hnz : ∀ c ∈ s.line, c ≠ 0) :
    ∃ s1, killRegion s = .ok s1 ∧ Restores s s1 := by
  unfold killRegion
  cases s.sel.active with
  | false =>
    simp only [Bool.not_false, if_true, pure_eq]
    exact ⟨s, rfl, .refl s⟩
  | true =>
    obtain ⟨b, e, sel1, hd⟩ := denotes s.line s.sel s.cur
    simp only [Bool.not_true, Bool.false_eq_true, if_false, ok_bind, pure_eq, hd.pos, hd.stable.cut, write_eq]
    by_cases hb : b ≥ 0
    · rw [if_pos hb]
      exact ⟨_, rfl, .of_cut hnz hd.range rfl rfl fun _ => curSet_pos _ _ b⟩
    · rw [if_neg hb]
      exact ⟨_, rfl, .of_cut hnz hd.range rfl rfl fun h => absurd h hb⟩

end RLV.Kill
