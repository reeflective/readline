import RLV.Model.Move
import RLV.Lemmas.TokTotal
/-! The modelled movement commands leave the text, the kill ring and the selection alone (C06), and the character
and word movements never panic (C01). -/
namespace RLV.Move
open RLV.Core
open RLV.Kill (St)

/-- what C06 asks of a movement: only the cursor may differ -/
def SameText (s s1 : St) : Prop := s1.line = s.line ∧ s1.kill = s.kill ∧ s1.sel = s.sel

theorem SameText.refl (s : St) : SameText s s := ⟨rfl, rfl, rfl⟩
theorem SameText.trans {a b c : St} : SameText a b → SameText b c → SameText a c
  | ⟨l1, k1, s1⟩, ⟨l2, k2, s2⟩ => ⟨l2.trans l1, k2.trans k1, s2.trans s1⟩

/-- the shape of the word and line movements: compute something, then store a cursor -/
theorem sameText_of_bind {α : Type} {s s1 : St} {x : G α} {g : α → Cur}
    (h : (do let a ← x; pure { s with cur := g a } : G St) = .ok s1) : SameText s s1 := by
  obtain ⟨a, _, h⟩ := bind_ok h
  cases h
  exact ⟨rfl, rfl, rfl⟩

theorem forwardChar_same (s s1 : St) (n : Int) (h : forwardChar s n = .ok s1) : SameText s s1 := by
  cases h
  exact ⟨rfl, rfl, rfl⟩

theorem backwardChar_same (s s1 : St) (n : Int) (h : backwardChar s n = .ok s1) : SameText s s1 := by
  cases h
  exact ⟨rfl, rfl, rfl⟩

theorem forwardWord1_same (s s1 : St) (h : forwardWord1 s = .ok s1) : SameText s s1 :=
  sameText_of_bind h

theorem backwardWord1_same (s s1 : St) (h : backwardWord1 s = .ok s1) : SameText s s1 :=
  sameText_of_bind h

theorem beginningOfLine_same (s s1 : St) (h : beginningOfLine s = .ok s1) : SameText s s1 :=
  sameText_of_bind h

theorem endOfLine_same (s s1 : St) (h : endOfLine s = .ok s1) : SameText s s1 :=
  sameText_of_bind h

/-! `F n` runs a command `f` `n` times and stops at the first panic: `forwardWordN` and `backwardWordN` satisfy the
two equations by `rfl`. -/
section
variable (F : Nat → St → G St) (f : St → G St) (h0 : ∀ s, F 0 s = pure s)
  (hs : ∀ n s, F (n + 1) s = f s >>= F n)
include h0 hs

theorem loop_same (hf : ∀ s s1, f s = .ok s1 → SameText s s1) :
    ∀ (n : Nat) (s s1 : St), F n s = .ok s1 → SameText s s1
  | 0, s, s1, h => by
    rw [h0] at h
    cases h
    exact SameText.refl s
  | n+1, s, s1, h => by
    rw [hs] at h
    obtain ⟨s', h1, h2⟩ := bind_ok h
    exact (hf s s' h1).trans (loop_same hf n s' s1 h2)

theorem loop_total (hf : ∀ s, Ok (f s)) : ∀ (n : Nat) (s : St), Ok (F n s)
  | 0, s => by
    rw [h0]
    exact .ret s
  | n+1, s => by
    rw [hs]
    exact .seq (hf s) fun s' => loop_total hf n s'

end

theorem forwardWord_same (s s1 : St) (n : Int) (h : forwardWord s n = .ok s1) : SameText s s1 :=
  loop_same forwardWordN forwardWord1 (fun _ => rfl) (fun _ _ => rfl) forwardWord1_same n.toNat s s1 h

theorem backwardWord_same (s s1 : St) (n : Int) (h : backwardWord s n = .ok s1) : SameText s s1 :=
  loop_same backwardWordN backwardWord1 (fun _ => rfl) (fun _ _ => rfl) backwardWord1_same n.toNat s s1 h

theorem forwardChar_total (s : St) (n : Int) : Ok (forwardChar s n) := ⟨_, rfl⟩
theorem backwardChar_total (s : St) (n : Int) : Ok (backwardChar s n) := ⟨_, rfl⟩

theorem forwardWord1_total (s : St) : Ok (forwardWord1 s) :=
  .seq (Tok.forwardEnd_total _ (Tok.tokenize_indexOK s.line (checkAppend s.line s.cur).pos)) fun _ => .ret _

theorem backwardWord1_total (s : St) : Ok (backwardWord1 s) :=
  have ⟨_, ha, _⟩ := Tok.backward_spec _ (Tok.tokenize_indexOK s.line (checkAppend s.line s.cur).pos)
  .bind ha (.ret _)

theorem forwardWord_total (s : St) (n : Int) : Ok (forwardWord s n) :=
  loop_total forwardWordN forwardWord1 (fun _ => rfl) (fun _ _ => rfl) forwardWord1_total n.toNat s

theorem backwardWord_total (s : St) (n : Int) : Ok (backwardWord s n) :=
  loop_total backwardWordN backwardWord1 (fun _ => rfl) (fun _ _ => rfl) backwardWord1_total n.toNat s

end RLV.Move
