import RLV.Lemmas.Stream
import RLV.Lemmas.MatchTyped
/-! The main loop of `Readline` (Model/MLoop) in the plain Emacs regime (`Plain`: no local keymap, no search mode,
no bind macro in the table, keys below 0x80): an iteration keeps the value of the reference run of Lemmas/Stream on
the keys the stack holds and those still to come, so the whole call ends with the result of the reference run,
however the input is cut into reads (C05). -/
namespace RLV.MLoop
open RLV.Stream

/-- commands that only log the bind and the keys that called it; `acc b`: the command accepts the line -/
def Clog (acc : Bind → Bool) : Cmds :=
  { run := fun b _ s => { s with log := s.log ++ [(b.action, s.eng.keys.matched)], done := s.done || acc b } }

structure Plain (tbl : List (Seq × Bind)) (s : LS) : Prop where
  ltbl : s.ltbl = []
  isearch : s.isearch = false
  emacs : s.eng.isEmacs = true
  nonInc : s.eng.nonInc = false
  nomk : s.eng.keys.mkeys = []
  htbl : s.eng.mainTbl = tbl
  ne : tbl.isEmpty = false
  nomac : ∀ sb ∈ tbl, sb.2.isMacro = false
  pm : s.eng.prefixed.isMacro = false
  am : s.eng.active.isMacro = false
  ascii : ∀ b ∈ s.eng.keys.buf, b < 0x80

def obs (s : LS) : AS := ⟨s.eng.keys.buf, s.eng.keys.mustWait, s.eng.prefixed, s.log, s.done⟩

theorem runBind_local_none (C : Cmds) (c : Bool) (s : LS) : runBind C false Bind.none c s = s :=
  if_pos ⟨rfl, rfl⟩

theorem iter_plain_eq (acc : Bind → Bool) (s : LS) (hl : s.ltbl = []) (hi : s.isearch = false) (hd : s.done = false) :
    iter (Clog acc) s =
      let m := matchMain { s.eng with keys := s.eng.keys.flushUsed, lisearch := false }
      if m.2.2.2 then { s with eng := m.1 } else runBind (Clog acc) true m.2.1 m.2.2.1 { s with eng := m.1 } := by
  unfold iter
  simp only [hl, hi, matchLocal_nil, runBind_local_none, hd, Bool.false_eq_true, if_false, or_self]

theorem read_plain (tbl : List (Seq × Bind)) (s : LS) (c : List Nat) (hP : Plain tbl s) (hc : ∀ b ∈ c, b < 0x80) :
    Plain tbl (read s c) :=
  { hP with ascii := fun b hb => (List.mem_append.mp hb).elim (hP.ascii b) (hc b) }

/-- `F`: the keys still to come, in the reads not yet made -/
theorem iter_canon (tbl : List (Seq × Bind)) (acc : Bind → Bool) (s : LS) (hP : Plain tbl s)
    (hB : s.eng.keys.buf ≠ []) (hd : s.done = false) (hclean : Clean tbl (obs s)) (F : Seq) :
    Plain tbl (iter (Clog acc) s) ∧ Stream.Inv tbl (obs (iter (Clog acc) s)) ∧
    canon tbl acc ((iter (Clog acc) s).eng.keys.buf ++ F) (iter (Clog acc) s).log (iter (Clog acc) s).done =
      canon tbl acc (s.eng.keys.buf ++ F) s.log s.done := by
  -- the dispatch the iteration performs is the clean one `r`, but for the bind a prefix reports
  have hr' := dispatch_active_eq tbl s.eng.keys.buf [] [] false s.eng.prefixed Bind.none s.eng.active hB
  simp only [Clean, obs] at hclean
  rw [hclean] at hr'
  generalize hr : dispatch tbl s.eng.keys.buf [] [] false Bind.none Bind.none = r at hr'
  have hnm := dispatch_nomacro tbl hP.nomac s.eng.keys.buf [] [] false Bind.none Bind.none rfl rfl
  have sp := dispatch_spec tbl s.eng.keys.buf [] [] false Bind.none Bind.none
  rw [hr] at hnm sp
  have hrd : r.read ≠ [] := List.ne_nil_of_length_pos (sp.took hB)
  have hrr : r.read ++ r.rest = s.eng.keys.buf := sp.split
  rw [← hP.htbl] at hr'
  have hascii' : ∀ b ∈ r.read ++ r.rest, b < 0x80 := by
    rw [hrr]
    exact hP.ascii
  -- the first key read is below 0x80: the multibyte fallback of `MatchMain` does not apply
  have hhead : r.read.headD 0 < 0x80 := by
    cases hread : r.read with
    | nil => decide
    | cons x u =>
      refine hascii' x (List.mem_append_left _ ?_)
      rw [hread]
      exact List.mem_cons_self
  have hne : s.eng.mainTbl.isEmpty = false := by
    rw [hP.htbl]
    exact hP.ne
  have hmm := matchMain_typed { s.eng with keys := s.eng.keys.flushUsed, lisearch := false } hne hP.nonInc rfl
    hP.nomk hr' (matchCharacter_off _ _ _ _ (.inr (.inr hhead))) hrd fun _ => .inl hP.emacs
  rw [iter_plain_eq acc s hP.ltbl hP.isearch hd, hmm]
  cases hp : r.pfx with
  | false =>
    -- a bind is selected: the first dispatch of the reference run (`dispatch_append`)
    have hext := dispatch_append tbl s.eng.keys.buf F [] [] false Bind.none Bind.none hB
    rw [hr] at hext
    simp only [hp, Bool.false_eq_true, if_false] at hext
    have hpn : r.prefixed = Bind.none := (sp.complete hB hp).1
    simp only [cond_false, Bool.false_eq_true, if_false, runBind, Bool.true_eq_false, false_and, hnm.1, Clog,
      hpn]
    refine ⟨{ hP with pm := rfl, am := hnm.1, ascii := fun b hb' => hascii' b (List.mem_append_right _ hb') },
      ⟨fun _ => rfl, fun h => Bool.noConfusion h⟩, ?_⟩
    rw [hd, canon_run tbl acc (s.eng.keys.buf ++ F) s.log _ (fun h => hB (List.append_eq_nil_iff.mp h).1) hext rfl]
    rfl
  | true =>
    -- a prefix: every key is pushed back and the loop waits; nothing changes for the reference run
    simp only [cond_true, if_true, sp.all hp, List.append_nil, List.isEmpty_nil]
    have hb : r.read = s.eng.keys.buf := by rw [← hrr, sp.all hp, List.append_nil]
    rw [hb]
    exact ⟨{ hP with pm := hnm.2, am := hP.am },
      ⟨fun h => Bool.noConfusion h, fun _ => ⟨hB, (congrArg DResult.pfx hr).trans hp, congrArg DResult.prefixed hr⟩⟩,
      rfl⟩

theorem session_canon (tbl : List (Seq × Bind)) (acc : Bind → Bool) (f : Nat) (chunks : List (List Nat)) (s s' : LS)
    (hP : Plain tbl s) (hI : Stream.Inv tbl (obs s)) (hc : ∀ c ∈ chunks, ∀ b ∈ c, b < 0x80)
    (hs : session (Clog acc) f chunks s = (s', true)) :
    (s'.log, s'.done) = canon tbl acc (s.eng.keys.buf ++ chunks.flatten) s.log s.done := by
  fun_induction session (Clog acc) f chunks s with
  | case1 => exact absurd (congrArg Prod.snd hs) Bool.false_ne_true
  | case2 _ _ _ hd =>
    cases hs
    rw [hd, canon_done]
  | case3 _ _ _ hn =>
    -- blocked at the end of the input
    cases hs
    rw [List.flatten_nil, List.append_nil]
    exact (canon_blocked tbl acc (obs s') hI ((needRead_iff _).mp hn).2 s'.done).symm
  | case4 _ _ _ _ _ _ hce ih =>
    rw [List.isEmpty_iff.mp hce]
    exact ih hP hI (fun c' h => hc c' (List.mem_cons_of_mem _ h)) hs
  | case5 _ s hd _ c cs hce ih =>
    -- a read, then the iteration
    have hPr := read_plain tbl s c hP (hc c List.mem_cons_self)
    have hBr : (read s c).eng.keys.buf ≠ [] := fun h => hce (List.isEmpty_iff.mpr (List.append_eq_nil_iff.mp h).2)
    obtain ⟨hP', hI', hcan⟩ :=
      iter_canon tbl acc (read s c) hPr hBr (Bool.eq_false_iff.mpr hd) (hI.clean_read tbl c) cs.flatten
    rw [ih hP' hI' (fun c' h => hc c' (List.mem_cons_of_mem _ h)) hs, hcan, List.flatten_cons, ← List.append_assoc]
    rfl
  | case6 _ chunks s hd hn ih =>
    have hb : ¬ (s.eng.keys.buf = [] ∨ s.eng.keys.mustWait = true) := fun h =>
      hn ((needRead_iff _).mpr ⟨hP.nomk, h⟩)
    have hw : s.eng.keys.mustWait = false := Bool.eq_false_iff.mpr fun h => hb (Or.inr h)
    obtain ⟨hP', hI', hcan⟩ :=
      iter_canon tbl acc s hP (fun h => hb (Or.inl h)) (Bool.eq_false_iff.mpr hd) (hI.clean tbl hw) chunks.flatten
    rw [ih hP' hI' hc hs, hcan]

end RLV.MLoop
