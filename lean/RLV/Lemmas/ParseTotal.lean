import RLV.Lemmas.ScanTotal
import RLV.Model.Parser
/-! C12 at parser level: `parseD` (`parse` on any `$include` budget) returns a value for every byte string, option set
and handler whose `Get` only answers bool, string, int or nil, also one that serves files which include themselves
(`parseD_ok` is by induction on the parser's own `$include` budget). -/
namespace RLV.Inputrc
open RLV.Core (G Panic Ok)

variable {σ : Type} (H : Handler σ)

/-- `Get` answers a bool, a string, an int or nil: not what `doSet` meets with `panic("unsupported type")` -/
def Handler.Supported (H : Handler σ) : Prop := ∀ h n, H.get h n ≠ .unsupported

/-- the function `$include` runs on the bytes of a file, if there is one, returns -/
def NestedOK (nested : Option (List Nat → σ → G σ)) : Prop :=
  ∀ run, nested = some run → ∀ bs h, Ok (run bs h)

section
variable (hs : H.Supported) (o : Opts) (nested : Option (List Nat → σ → G σ)) (hn : NestedOK nested)
  (p : PSt) (h : σ)

include hs in
theorem doSet_ok (n v : Str) : Ok (doSet H o p h n v) := by
  unfold doSet
  apply Ok.ite (.ret _)                    -- inactive
  apply Ok.ite (.ite (.ret _) (.ret _))    -- `keymap`
  apply Ok.ite (.ite (.ret _) (.ret _))    -- `editing-mode`
  -- an ordinary variable: every dynamic type returns, but for `panic("unsupported type")`
  cases hget : H.get h n with
  | unsupported => exact absurd hget (hs h n)
  | b | s => exact .ret _
  | i =>
    dsimp only
    split <;> exact .ret _
  | nil =>
    dsimp only
    split
    · exact .ret _
    · exact .ite (.ret _) (.ite (.ret _) (.ret _))

include hn in
theorem doConstruct_ok (kw v : Str) : Ok (doConstruct H o nested p h kw v) := by
  unfold doConstruct
  apply Ok.ite (.ret _)                    -- `$if`
  apply Ok.ite (.ite (.ret _) (.ret _))    -- `$else`
  apply Ok.ite (.ite (.ret _) (.ret _))    -- `$endif`
  refine .ite (.ite (.ret _) ?_) (.ite (.ret _) (.ret _))    -- `$include`, any other construct
  -- `$include` under an active condition: what was read is run if there is budget left
  extract_lets r
  cases r.2 with
  | notExist | failed => exact .ret _
  | ok bytes =>
    cases nested with
    | none => exact .ret _
    | some run => exact .seq (hn run rfl bytes r.1) fun _ => .ret _

include hs hn

theorem execTok_ok (t : Tk) : Ok (execTok H o nested p h t) := by
  unfold execTok
  cases t.2.2 with
  | none | bind | bindMacro => exact .ret _
  | set => exact doSet_ok H hs o p h _ _
  | construct => exact doConstruct_ok H o nested hn p h _ _

theorem nextLine_ok (r : RS) : Ok (nextLine H o nested p h r) := by
  refine .seq (scanLine_ok r) fun line => ?_
  match line with
  | none | some (.error _) => exact .ret _
  | some (.ok t) => exact execTok_ok H hs o nested hn p h t

theorem parseLines_ok : ∀ (ls : List (List Nat)) (p : PSt) (h : σ), Ok (parseLines H o nested ls p h) := by
  intro ls
  induction ls with
  | nil => exact fun p h => .ret _
  | cons l ls ih =>
    intro p h
    refine .seq (nextLine_ok H hs o nested hn p h _) fun ⟨p', h', err⟩ => ?_
    cases err with
    | none => exact ih p' h'
    | some k => exact .ite (.ret _) (ih _ h')

theorem parseWith_ok (bytes : List Nat) : Ok (parseWith H nested o bytes h) := by
  refine .seq (parseLines_ok H hs o nested hn _ _ h) fun ⟨p, h', err⟩ => ?_
  cases err with
  | some k => exact .ret _
  | none => exact .ite (.ret _) (.ret _)

end

theorem parseD_ok (hs : H.Supported) : ∀ (budget : Nat) (o : Opts) (bytes : List Nat) (h : σ),
    Ok (parseD H budget o bytes h) := by
  intro budget
  induction budget with
  | zero => exact fun o bytes h => parseWith_ok H hs o none (fun _ hr => nomatch hr) h bytes
  | succ b ih =>
    intro o bytes h
    apply parseWith_ok H hs o _ _ h bytes
    intro run hr bs h0
    cases hr
    exact .seq (ih _ bs h0) fun _ => .ret _

end RLV.Inputrc
