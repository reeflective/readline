import RLV.Model.Menu
import RLV.Lemmas.MenuCycle
/-! Menu completion over SEVERAL groups (tags), all plain (not aliased) and non-empty: `Menu.select m 1 0` is one
`menu-complete`, `Menu.select m (-1) 0` one `menu-complete-backward`. -/
namespace RLV.Menu
open RLV.Menu2 RLV.Core

-- prefix sums (the offsets of the groups): two facts core does not have
theorem sum_take_succ (ns : List Nat) {i : Nat} (h : i < ns.length) :
    (ns.take (i + 1)).sum = (ns.take i).sum + ns.getD i 0 := by
  rw [List.take_add_one, List.sum_append, List.getD_eq_getElem?_getD, List.getElem?_eq_getElem h]
  rfl

theorem sum_take_le (ns : List Nat) (i : Nat) : (ns.take i).sum ≤ ns.sum := by
  have hsum := congrArg List.sum (List.take_append_drop i ns)
  rw [List.sum_append] at hsum
  omega

/-- a plain group of `n ≥ 1` candidates in rows of `c` -/
structure GOK (g : Grp) (n c : Nat) : Prop where
  plain : g.aliased = false
  grid : Grid (toSel g) n c

/-- a menu of plain, non-empty groups (group `j`: `ns[j]` candidates in rows of `cs[j]`), group `i` and no other
current, its selector on a candidate -/
structure MInv (m : Menu) (ns cs : List Nat) (i : Nat) : Prop where
  hi : i < m.length
  shape : ∀ j (hj : j < m.length), GOK m[j] (ns.getD j 0) (cs.getD j 0)
  cur : ∀ j (hj : j < m.length), m[j].isCurrent = decide (j = i)
  valid : Valid (toSel (m[i]'hi))

/-- `MInv` without the position of the selector: what the steps of `select` keep while they move it -/
structure MShape (m : Menu) (ns cs : List Nat) (i : Nat) : Prop where
  hi : i < m.length
  shape : ∀ j (hj : j < m.length), GOK m[j] (ns.getD j 0) (cs.getD j 0)
  cur : ∀ j (hj : j < m.length), m[j].isCurrent = decide (j = i)

/-- the default that `Menu.select` writes out for its `getD` of the current group (never taken: the index is in range) -/
def dflt : Grp := { rows := [], ncols := 0, maxX := 0, maxY := 0 }

/-- row-major index of the selector of group `j` -/
def pos (m : Menu) (j c : Nat) : Int := idx (toSel (m.getD j dflt)) c

/-- position of the selector among ALL the candidates, group after group -/
def gpos (m : Menu) (ns cs : List Nat) (i : Nat) : Int := ((ns.take i).sum : Int) + pos m i (cs.getD i 0)

/-- `k` times `menu-complete` -/
def presses : Nat → Menu → G Menu
  | 0, m => pure m
  | k+1, m => do
    let r ← select m 1 0
    presses k r.1

theorem toSel_pos (g : Grp) (x y : Int) :
    toSel { g with posX := x, posY := y } = { toSel g with x := x, y := y } := rfl

theorem pos_eq {m : Menu} {j : Nat} (hj : j < m.length) (c : Nat) : pos m j c = idx (toSel m[j]) c := by
  rw [pos, ← List.getElem_eq_getD]

theorem selected_valid (g : Grp) (hv : Valid (toSel g)) :
    selected g = .ok ((g.rows.getD g.posY.toNat []).getD g.posX.toNat 0) := by
  obtain ⟨hx, hy, hyR, hcell⟩ : 0 ≤ g.posX ∧ 0 ≤ g.posY ∧ g.posY < g.rows.length ∧
    g.posX < ((g.rows.getD g.posY.toNat []).length : Int) := hv
  have c1 : ¬ (g.posY = -1 ∨ g.posX = -1) := by omega
  have c2 : ¬ (g.posY < 0 ∨ g.posY ≥ g.rows.length) := by omega
  have c3 : ¬ (g.posX < 0 ∨ g.posX ≥ ((g.rows.getD g.posY.toNat []).length : Int)) := by omega
  simp only [selected, c1, c2, c3, if_false, pure_eq]

theorem lastCell_plain (g : Grp) (hp : g.aliased = false) (hne : 0 < g.rows.length) :
    lastCell g = .ok { g with posY := ((toSel g).R : Int) - 1,
                              posX := ((toSel g).rows ((toSel g).R - 1) : Int) - 1 } := by
  have c1 : ¬ ((g.rows.length : Int) - 1 < 0 ∨ (g.rows.length : Int) - 1 ≥ g.rows.length) := by omega
  have e : ((g.rows.length : Int) - 1).toNat = g.rows.length - 1 := by omega
  simp only [lastCell, rowLen, hp, c1, e, toSel, Bool.false_eq_true, if_false, ok_bind, pure_eq]

theorem moveSelector_plain (g : Grp) (dx dy : Int) (hp : g.aliased = false) :
    moveSelector g dx dy = (do
      let r ← Menu2.move (toSel g) dx dy
      pure ({ g with posX := r.1.x, posY := r.1.y }, r.2.1, r.2.2)) := by
  simp only [moveSelector, hp, Bool.false_eq_true, if_false]

theorem enter_cell {g : Grp} {n c : Nat} (h : GOK g n c) (next : Bool) :
    ∃ x y, (if next then pure (firstCell g) else lastCell g : G Grp) = .ok { g with posX := x, posY := y } ∧
      Valid (toSel { g with posX := x, posY := y }) ∧
      idx (toSel { g with posX := x, posY := y }) c = if next then 0 else (n : Int) - 1 := by
  cases next
  · exact ⟨_, _, lastCell_plain g h.plain h.grid.hR, last_cell h.grid⟩
  · exact ⟨0, 0, rfl, first_cell h.grid⟩

variable {m : Menu} {ns cs : List Nat} {i : Nat}

theorem MInv.toShape (h : MInv m ns cs i) : MShape m ns cs i := ⟨h.hi, h.shape, h.cur⟩

theorem MShape.inv (h : MShape m ns cs i) (hv : Valid (toSel (m[i]'h.hi))) : MInv m ns cs i :=
  ⟨h.hi, h.shape, h.cur, hv⟩

theorem MShape.of_forall {m : Menu} (hi : i < m.length)
    (h : ∀ j (hj : j < m.length), GOK m[j] (ns.getD j 0) (cs.getD j 0) ∧ m[j].isCurrent = decide (j = i)) :
    MShape m ns cs i :=
  ⟨hi, fun j hj => (h j hj).1, fun j hj => (h j hj).2⟩

theorem MShape.curIdx_eq (h : MShape m ns cs i) : curIdx m = some i := by
  rw [curIdx, List.findIdx?_eq_some_iff_getElem]
  have hi := h.hi
  refine ⟨hi, (h.cur i hi).trans (decide_eq_true rfl), fun j hji => ?_⟩
  rw [h.cur j (by omega), decide_eq_true_eq]
  omega

theorem MShape.of_setPos (h : MShape m ns cs i) (x y : Int) :
    MShape (m.set i { m[i]'h.hi with posX := x, posY := y }) ns cs i := by
  refine .of_forall (Nat.lt_of_lt_of_eq h.hi List.length_set.symm) fun j hj => ?_
  rw [List.length_set] at hj
  rw [List.getElem_set]
  split
  next hij =>
    subst hij
    exact ⟨⟨(h.shape i hj).plain, (h.shape i hj).grid.setCell x y⟩, h.cur i hj⟩
  next => exact ⟨h.shape j hj, h.cur j hj⟩

theorem length_setCur (m : Menu) (j : Nat) : (setCur m j).length = m.length := List.length_mapIdx

theorem MShape.of_setCur (h : MShape m ns cs i) {j : Nat}
    (hj : j < m.length) : MShape (setCur m j) ns cs j := by
  refine .of_forall (Nat.lt_of_lt_of_eq hj (length_setCur m j).symm) fun k hk => ?_
  have hk' : k < m.length := Nat.lt_of_lt_of_eq hk (length_setCur m j)
  have e : (setCur m j)[k] = { m[k] with isCurrent := k == j } := by
    simp only [setCur, List.getElem_mapIdx]
  rw [e]
  exact ⟨⟨(h.shape k hk').plain, (h.shape k hk').grid⟩, Bool.beq_eq_decide_eq k j⟩

/-- the `j` of `Menu.cycle`: the group after / before group `i` of `len`, cyclically (`cycleNextGroup` /
`cyclePreviousGroup`) -/
def neighbour (len i : Nat) (next : Bool) : Nat :=
  if next then (if i + 1 = len then 0 else i + 1) else (if i = 0 then len - 1 else i - 1)

theorem neighbour_lt {len i : Nat} (hi : i < len) (next : Bool) : neighbour len i next < len := by
  unfold neighbour
  split <;> split <;> omega

theorem MShape.cycle_eq (h : MShape m ns cs i) (next : Bool) :
    cycle m next = setCur m (neighbour m.length i next) := by
  rw [cycle, h.curIdx_eq]
  rfl

/-- `select` as a function of what the move in the current group returns. On `done` the `getD` default for the
neighbour `j` is the OLD group, as in the code. -/
theorem select_eq (h : MShape m ns cs i) {d e : Int} {s' : Sel}
    {done next : Bool} (hmv : Menu2.move (toSel (m[i]'h.hi)) d e = .ok (s', done, next)) :
    select m d e =
      (let g' : Grp := { m[i]'h.hi with posX := s'.x, posY := s'.y }
       let j := neighbour m.length i next
       if done then do
         let m2 := setCur (m.set i g') j
         let gj ← (if next then pure (firstCell (m2.getD j (m[i]'h.hi))) else lastCell (m2.getD j (m[i]'h.hi)))
         let v ← selected gj
         pure (m2.set j gj, some v)
       else do
         let v ← selected g'
         pure (m.set i g', some v)) := by
  have hal := (h.shape i h.hi).plain
  have hne : (m[i]'h.hi).rows.isEmpty = false :=
    List.isEmpty_eq_false_iff.mpr (List.ne_nil_of_length_pos (h.shape i h.hi).grid.hR)
  have hg : ∀ d, m.getD i d = m[i]'h.hi := fun d => (List.getElem_eq_getD d).symm
  have hrc : (if (m[i]'h.hi).aliased = true then ((0 : Int), d) else (d, e)) = (d, e) :=
    if_neg (Bool.eq_false_iff.mp hal)
  -- up to the move: the current group is found (`curIdx_eq`, `hg`), it is not empty (`hne`), the keys are not adjusted
  -- (`hrc`), the plain move runs and returns `hmv`
  simp only [select, currentGroup, h.curIdx_eq, hg, hne, hrc, moveSelector_plain _ _ _ hal, hmv,
    Bool.false_eq_true, if_false, ok_bind, pure_eq]
  cases done
  · simp only [Bool.not_false, if_true, Bool.false_eq_true, if_false]
  · -- `done`: in the menu with the moved selector (`h1`) `cycle` makes the neighbour current (`hc1`), and that is
    -- the group `curIdx` then finds (`hc2`); both speak of the length of `m.set ..`, which is that of `m`
    have h1 := h.of_setPos s'.x s'.y
    have hc1 := h1.cycle_eq next
    have hc2 := (h1.of_setCur (neighbour_lt h1.hi next)).curIdx_eq
    simp only [List.length_set] at hc1 hc2
    simp only [Bool.not_true, Bool.false_eq_true, if_false, if_true, hc1, hc2]
    cases next <;> rfl

/-- `move_step` for the menu; `decide (d = 1)`: forwards -/
theorem select_step (h : MInv m ns cs i) {d : Int} (hd : d = 1 ∨ d = -1) :
    ∃ m' v i', select m d 0 = .ok (m', some v) ∧ MInv m' ns cs i' ∧ m'.length = m.length ∧
      ((i' = i ∧ pos m' i (cs.getD i 0) = pos m i (cs.getD i 0) + d) ∨
       ((pos m i (cs.getD i 0) + d = -1 ∨ pos m i (cs.getD i 0) + d = ns.getD i 0) ∧
        i' = neighbour m.length i (decide (d = 1)) ∧
        pos m' i' (cs.getD i' 0) = if d = 1 then 0 else (ns.getD i' 0 : Int) - 1)) := by
  have hs := h.toShape
  rw [pos_eq h.hi]
  obtain ⟨x, y, hmv, hv', hi'⟩ | ⟨x, y, hmv, hw⟩ := move_step (h.shape i h.hi).grid h.valid hd
  · -- inside the group
    have hsel := select_eq hs hmv
    have h1 := hs.of_setPos x y
    rw [if_neg Bool.false_ne_true, selected_valid _ hv'] at hsel
    refine ⟨_, _, i, hsel, h1.inv ?_, List.length_set, .inl ⟨rfl, ?_⟩⟩
    · rw [List.getElem_set_self]
      exact hv'
    · rw [pos_eq h1.hi]
      simp only [List.getElem_set_self]
      exact hi'
  · -- over to the neighbouring group
    have hsel := select_eq hs hmv
    have h2 := (hs.of_setPos x y).of_setCur (neighbour_lt (hs.of_setPos x y).hi (decide (d = 1)))
    rw [List.length_set] at h2
    obtain ⟨x', y', hent, hv', hi'⟩ := enter_cell (h2.shape _ h2.hi) (decide (d = 1))
    dsimp only at hsel
    rw [if_pos rfl, ← List.getElem_eq_getD (h := h2.hi), hent, ok_bind, selected_valid _ hv', ok_bind] at hsel
    have h3 := h2.of_setPos x' y'
    refine ⟨_, _, _, hsel, h3.inv ?_, ?_, .inr ⟨hw, rfl, ?_⟩⟩
    · rw [List.getElem_set_self]
      exact hv'
    · rw [List.length_set, length_setCur, List.length_set]
    · rw [pos_eq h3.hi]
      simp only [List.getElem_set_self, hi', decide_eq_true_eq]

theorem group_range (hs : ∀ j (hj : j < m.length), GOK m[j] (ns.getD j 0) (cs.getD j 0))
    (hlen : ns.length = m.length) {j : Nat} (hj : j < m.length) :
    ((ns.take (j + 1)).sum : Int) = (ns.take j).sum + ns.getD j 0 ∧ 0 < ns.getD j 0 ∧
      ((ns.take (j + 1)).sum : Int) ≤ ns.sum ∧ (j + 1 = m.length → ((ns.take (j + 1)).sum : Int) = ns.sum) := by
  have h1 := sum_take_succ ns (hlen ▸ hj)
  have h2 := sum_take_le ns (j + 1)
  have h3 := (hs j hj).grid.hlast
  have h4 := (hs j hj).grid.hlast1
  refine ⟨by omega, by omega, by omega, fun hl => ?_⟩
  rw [List.take_of_length_le (by omega)]

theorem MInv.pos_range (h : MInv m ns cs i) :
    0 ≤ pos m i (cs.getD i 0) ∧ pos m i (cs.getD i 0) < ns.getD i 0 := by
  rw [pos_eq h.hi]
  exact ⟨idx_nonneg h.valid, idx_lt (h.shape i h.hi).grid h.valid⟩

theorem gpos_eq_emod (h : MInv m ns cs i) (hlen : ns.length = m.length) {a : Int} (k : Int)
    (he : gpos m ns cs i = a + k * (ns.sum : Int)) : gpos m ns cs i = a % (ns.sum : Int) := by
  have hr := group_range h.shape hlen h.hi
  have hp := h.pos_range
  refine eq_emod k ⟨?_, ?_, he⟩ <;> rw [gpos] <;> omega

theorem select_gpos (h : MInv m ns cs i) (hlen : ns.length = m.length) {d : Int} (hd : d = 1 ∨ d = -1) :
    ∃ m' v i', select m d 0 = .ok (m', some v) ∧ MInv m' ns cs i' ∧ m'.length = m.length ∧
      gpos m' ns cs i' = (gpos m ns cs i + d) % (ns.sum : Int) := by
  obtain ⟨m', v, i', hsel, hinv, hl, hcase⟩ := select_step h hd
  refine ⟨m', v, i', hsel, hinv, hl, ?_⟩
  -- `m'` is in the invariant, so only the congruence is left: no multiple of `N` inside, one at either wrap
  suffices hcong : ∃ k : Int, gpos m' ns cs i' = gpos m ns cs i + d + k * (ns.sum : Int) from
    hcong.elim fun k hk => gpos_eq_emod hinv (by omega) k hk
  have hi := h.hi
  have hr := group_range h.shape hlen hi
  unfold gpos
  obtain ⟨rfl, hp⟩ | ⟨hw, rfl, hp⟩ := hcase
  · -- inside group `i`
    exact ⟨0, by omega⟩
  · have hpr := h.pos_range
    rw [hp]
    rcases hd with rfl | rfl
    · -- forwards, off the last candidate of group `i`
      simp only [neighbour, decide_true, if_true]
      split
      next hlast =>
        simp only [List.take_zero, List.sum_nil]
        exact ⟨-1, by omega⟩
      next hmid => exact ⟨0, by omega⟩
    · -- backwards, off the first candidate of group `i`
      simp only [neighbour, show ¬ ((-1 : Int) = 1) by decide, decide_false, Bool.false_eq_true, if_false]
      split
      next h0 =>
        subst h0
        have hlast := group_range h.shape hlen (j := m.length - 1) (by omega)
        simp only [List.take_zero, List.sum_nil]
        exact ⟨1, by omega⟩
      next hpos =>
        obtain ⟨j, rfl⟩ : ∃ j, i = j + 1 := ⟨i - 1, by omega⟩
        have hprev := group_range h.shape hlen (j := j) (by omega)
        simp only [Nat.add_sub_cancel]
        exact ⟨0, by omega⟩

theorem presses_gpos (ns cs : List Nat) : ∀ (k : Nat) (m : Menu) (i : Nat), MInv m ns cs i → ns.length = m.length →
    ∃ m' i', presses k m = .ok m' ∧ MInv m' ns cs i' ∧ m'.length = m.length ∧
      gpos m' ns cs i' = (gpos m ns cs i + k) % (ns.sum : Int) := by
  intro k
  induction k with
  | zero =>
    intro m i h hlen
    exact ⟨m, i, rfl, h, rfl, gpos_eq_emod h hlen 0 (by omega)⟩
  | succ k ih =>
    intro m i h hlen
    obtain ⟨m1, v, i1, hsel, hinv, hl, hg⟩ := select_gpos h hlen (Or.inl rfl)
    obtain ⟨m', i', hp, hinv', hl', hg'⟩ := ih m1 i1 hinv (by omega)
    refine ⟨m', i', ?_, hinv', by omega, ?_⟩
    · rw [presses, hsel, ok_bind]
      exact hp
    · rw [hg', hg, Int.emod_add_emod]
      congr 1
      omega

end RLV.Menu
