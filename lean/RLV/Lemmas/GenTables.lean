import RLV.Gen.Binds
import RLV.Lemmas.TypedTables
/-! The regenerated default keymaps pass the test of `Lemmas/TypedTables` (evaluated by the kernel at every check,
on whatever `rlv-dump` wrote). -/
namespace RLV.Gen
open RLV RLV.Loop

theorem emacs_typedOK : typedOK (normU emacs) = true := by decide +kernel
theorem viins_typedOK : typedOK (normU vi_insert) = true := by decide +kernel

end RLV.Gen
