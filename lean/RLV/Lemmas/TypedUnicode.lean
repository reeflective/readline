import RLV.Lemmas.Loop
/-! Typing any Unicode text (C02): what the dispatcher, its multibyte fallback and `self-insert` do with
the UTF-8 bytes of one character, wherever the reads are cut; then one induction over `run` (`typed_returned`). -/
namespace RLV.Loop
open RLV RLV.Gen RLV.Core

theorem wf_fffd : WFEnc fffd := .of 1 rfl (by decide) (List.forall_mem_singleton.mpr rfl)

variable {tbl : List (Seq × Bind)} (ht : HighTbl tbl)
include ht

theorem high_unbound (rd : Seq) (h80 : 0x80 ≤ rd.headD 0) (hne : rd ≠ fffd) : lastExact rd tbl = Bind.none := by
  refine lastExact_of_all rd Bind.none tbl _ (fun e he heq => absurd ?_ hne) (Or.inr rfl)
  subst heq
  exact ht.only e he h80

theorem high_ext (rd suf : Seq) (h : rd ++ suf = fffd) (hs : suf ≠ []) : hasProperExt rd tbl = true :=
  let ⟨e, he, hf⟩ := ht.has
  hasProperExt_iff.mpr ⟨e, he, suf, hs, hf.trans h.symm⟩

theorem high_noext (rd : Seq) (h80 : 0x80 ≤ rd.headD 0) (h : ¬ rd <+: fffd) : hasProperExt rd tbl = false := by
  rw [Bool.eq_false_iff]
  intro hcon
  obtain ⟨e, he, suf, _, heq⟩ := hasProperExt_iff.mp hcon
  have he80 : 0x80 ≤ e.1.headD 0 := by
    cases rd with
    | nil => exact absurd h80 (by decide)
    | cons a t =>
      rw [heq]
      exact h80
  exact h ⟨suf, heq.symm.trans (ht.only e he he80)⟩

theorem dispatch_high {c F' : Seq} (hc : c ++ F' = fffd) (hF' : F' ≠ []) (rest : Seq) (p a : Bind) :
    dispatch tbl (c ++ rest) [] [] false p a = dispatch tbl rest c c (!c.isEmpty) p a := by
  have hpre : ∀ i, 0 < i → i ≤ c.length →
      hasProperExt ([] ++ c.take i) tbl = true ∧ (lastExact ([] ++ c.take i) tbl).action = "" := by
    intro i hi hle
    have hsplit : c.take i ++ (c.drop i ++ F') = fffd := by rw [← List.append_assoc, List.take_append_drop, hc]
    have hne : c.take i ≠ [] := by
      apply List.ne_nil_of_length_pos
      rw [List.length_take]
      omega
    have hsuf : c.drop i ++ F' ≠ [] := List.append_ne_nil_of_right_ne_nil _ hF'
    have hnf : c.take i ≠ fffd := fun h =>
      hsuf (List.append_cancel_left (hsplit.trans ((List.append_nil _).trans h).symm))
    refine ⟨high_ext ht _ _ hsplit hsuf, ?_⟩
    rw [List.nil_append, high_unbound ht _ (wf_fffd.prefix_head hne ⟨_, hsplit⟩) hnf]
    rfl
  obtain ⟨p', h1, _, h3⟩ := dispatch_prefixes tbl rest a c [] [] false p fun i hi hle => (hpre i hi hle).1
  rw [h1, h3 fun i hi hle => (hpre i hi hle).2]
  simp only [List.nil_append, Bool.false_or]

omit ht

theorem decode_ne_fffd (r : Nat) (hv : ValidRune r) (hnf : r ≠ 0xFFFD) : (decodeRune (encodeRune r)).1 ≠ 0xFFFD := by
  rw [← List.append_nil (encodeRune r), decodeRune_encodeRune r hv]
  exact hnf

/-- after the part `p` of the character `E`, the loop of `matchCharacter` takes the bytes `s` of `E` that the buffer
has; they complete it (`q = []`), or the buffer is exhausted -/
theorem matchCharLoop_wf {E : List Nat} (hE : WFEnc E) (e : Eng) (K : Keys) (hmk : K.mkeys = []) :
    ∀ (s p q T : List Nat) (f : Nat), p ++ s ++ q = E → (q = [] ∨ T = []) → s.length < f →
    matchCharLoop f { e with keys := { K with buf := s ++ T } } p =
      ({ e with keys := { K with buf := T } }, p ++ s, decide (q = [])) := by
  intro s
  induction s with
  | nil =>
    intro p q T f hpq hqT hf
    obtain ⟨f, rfl⟩ : ∃ f', f = f' + 1 := ⟨f - 1, by omega⟩
    rw [List.append_nil] at hpq ⊢
    rw [matchCharLoop]
    by_cases hq : q = []
    · rw [← hpq, hq, List.append_nil] at hE
      rw [if_pos hE.full, hq]
      rfl
    · rw [if_neg (hE.prefix_notfull p q hpq hq ▸ Bool.false_ne_true), hqT.resolve_left hq, decide_eq_false hq]
      simp only [Keys.peek, List.append_nil, hmk]
  | cons k s' ih =>
    intro p q T f hpq hqT hf
    obtain ⟨f, rfl⟩ : ∃ f', f = f' + 1 := ⟨f - 1, by omega⟩
    have hnf : fullRune p = false :=
      hE.prefix_notfull p (k :: s' ++ q) (by rwa [List.append_assoc] at hpq) (List.cons_ne_nil _ _)
    rw [matchCharLoop, if_neg (hnf ▸ Bool.false_ne_true)]
    rw [List.append_cons p k s'] at hpq ⊢
    exact ih (p ++ [k]) q T f hpq hqT (Nat.lt_of_succ_lt_succ hf)

/-- what a character above 0x7F needs of the engine, besides what ASCII needs -/
structure HighOK (e : Eng) : Prop where
  high : HighTbl e.mainTbl
  ins : e.insertsText = true
  hpf : e.prefixed = Bind.none

/-- `s`: the bytes of the character `E` that the buffer has, `q` those it has not: all of `E` is read and bound to
`self-insert`, or all of the buffer is read as a prefix (`a`: the bind that stays active then) -/
theorem read_char {e : Eng} (ok : HighOK e) (hmk : e.keys.mkeys = []) {E : Seq} (hE : WFEnc E)
    (hdec : (decodeRune E).1 ≠ 0xFFFD) {s q T : Seq} (hs : s ≠ []) (hEq : s ++ q = E) (hqT : q = [] ∨ T = [])
    (hbuf : e.keys.buf = s ++ T) :
    ∃ r a, dispatch e.mainTbl e.keys.buf [] [] false e.prefixed e.active = r ∧
      matchCharacter (e.after r) r.bind r.pfx r.read =
        ({ e with active := if q = [] then selfInsertBind else a, prefixed := Bind.none,
                  keys := { e.keys with buf := T } },
         if q = [] then selfInsertBind else a, !decide (q = []), s) := by
  -- `E` is not U+FFFD, which decodes to 0xFFFD; so neither is a prefix of the other
  have hne : E ≠ fffd := fun h => hdec (h ▸ rfl)
  have hFE : ¬ fffd <+: E := fun h => hne (wf_fffd.prefix_eq hE h).symm
  have hsE : s <+: E := ⟨q, hEq⟩
  by_cases hp : s <+: fffd
  · -- all of `s` are bytes of U+FFFD, not all of it: the dispatcher walks to the end of the buffer and reports a prefix
    obtain ⟨F', hF'⟩ := hp
    have hF : F' ≠ [] := by
      intro h
      rw [h, List.append_nil] at hF'
      exact hFE (hF' ▸ hsE)
    have hq : q ≠ [] := by
      intro h
      rw [h, List.append_nil] at hEq
      exact hne (hE.prefix_eq wf_fffd ⟨F', hEq ▸ hF'⟩)
    rw [hqT.resolve_left hq] at hbuf ⊢
    refine ⟨⟨e.active, true, s, s, [], e.prefixed⟩, e.active, ?_, ?_⟩
    · rw [hbuf, dispatch_high ok.high hF' hF, dispatch, List.isEmpty_eq_false_iff.mpr hs]
      rfl
    · rw [matchCharacter_off _ _ _ _ (.inr (.inl rfl)), if_neg hq, decide_eq_false hq, Eng.after, ok.hpf]
      rfl
  · -- `s` shares a proper prefix `c` with the bytes of U+FFFD and leaves them at its byte `x`: the dispatcher stops there
    -- without a bind, the fallback takes the other bytes of `s` (`matchCharLoop_wf`)
    obtain ⟨c, x, s, F', rfl, hcF, hF', hx⟩ := leaves_at s fffd hp fun h => hFE (h.trans hsE)
    have hcx : c ++ [x] ++ s ++ q = E := by rw [← hEq, List.append_cons c x s]
    have hpE : c ++ [x] <+: E := ⟨s ++ q, (List.append_assoc _ _ _).symm.trans hcx⟩
    have h80 : 0x80 ≤ (c ++ [x]).headD 0 :=
      hE.prefix_head (List.append_ne_nil_of_right_ne_nil _ (List.cons_ne_nil _ _)) hpE
    have hnf : c ++ [x] ≠ fffd := fun h => hx ⟨[], (List.append_nil _).trans h⟩
    refine ⟨⟨Bind.none, false, c ++ [x], c, s ++ T, Bind.none⟩, Bind.none, ?_, ?_⟩
    · rw [hbuf, List.append_assoc, List.cons_append, dispatch_high ok.high hcF hF',
        dispatch_stop (high_noext ok.high _ h80 hx), high_unbound ok.high _ h80 hnf,
        if_pos (show Bind.none.action = "" from rfl), ok.hpf]
    · have hlen : s.length < 4 := by
        obtain ⟨b0, t, hEt, _, htl⟩ := hE.head
        have hlenE := congrArg List.length hEq
        rw [hEt] at hlenE
        simp only [List.length_append, List.length_cons] at hlenE
        omega
      have hc : fullRune c = false := wf_fffd.prefix_notfull c F' hcF hF'
      show matchCharacter { ({ e with prefixed := Bind.none, active := Bind.none } : Eng) with
        keys := { e.keys with buf := s ++ T } } Bind.none false (c ++ [x]) = _
      rw [matchCharacter, if_pos ⟨rfl, rfl, h80, by rwa [List.dropLast_concat], ok.ins⟩,
        matchCharLoop_wf hE _ e.keys hmk s (c ++ [x]) q T 4 hcx hqT hlen, ← List.append_cons c x s]
      by_cases hq : q = []
      · -- the character is complete and decodes to a rune other than U+FFFD (`hdec`): it is inserted
        rw [hq, List.append_nil] at hEq
        simp only [hq, decide_true, Bool.true_eq_false, if_false, if_true, hEq, hdec, Bool.not_true]
      · simp only [hq, decide_false, if_true, if_false, Bool.not_false]

/-- U+FFFD is left out: it is the decoder's error value -/
def Typable (r : Nat) : Prop := printable r ∨ (0x80 ≤ r ∧ ValidRune r ∧ r ≠ 0xFFFD)

theorem Typable.ge20 {r : Nat} (h : Typable r) : 0x20 ≤ r := h.elim (·.1) fun h => Nat.le_trans (by decide) h.1

theorem Typable.high {r : Nat} (h : Typable r) (h80 : 0x80 ≤ r) : ValidRune r ∧ r ≠ 0xFFFD :=
  h.elim (fun hp => absurd (Nat.le_trans h80 hp.2) (by decide)) (·.2)

theorem matchMain_char (e : Eng) (htb : TableOK e) (hni : e.nonInc = false) (hli : e.lisearch = false)
    (hmk : e.keys.mkeys = []) (r : Nat) (hr : Typable r) (hk : 0x80 ≤ r → HighOK e)
    (R : List Nat) (hbuf : e.keys.buf = encodeRune r ++ R) :
    matchMain e =
      ({ e with active := selfInsertBind, prefixed := Bind.none,
                keys := { e.keys with buf := R, matched := [r], mustWait := false } },
        selfInsertBind, true, false) := by
  rw [← hasCmd_reg htb.reg1]
  rcases hr with hp | ⟨h80, hv, hnf⟩
  · obtain ⟨h1, h2⟩ := htb.ascii r hp
    obtain ⟨h20, h7e⟩ := hp
    rw [encodeRune_ascii r (by omega)] at hbuf
    exact matchMain_byte e r R selfIns htb.ne hni hli (by omega) (by omega) hbuf hmk h1 h2 (by decide)
  · have hrd : encodeRune r ≠ [] := encodeRune_ne_nil r
    obtain ⟨d, a, hd, hc⟩ := read_char (hk h80) hmk (encodeRune_wf r hv h80).1 (decode_ne_fffd r hv hnf) hrd
      (List.append_nil _) (Or.inl rfl) hbuf
    rw [matchMain_typed e htb.ne hni hli hmk hd hc hrd nofun, runesOfBytes_encodeRune r hv]
    rfl

theorem matchMain_partial (e : Eng) (hne : e.mainTbl.isEmpty = false) (hni : e.nonInc = false)
    (hli : e.lisearch = false) (hmk : e.keys.mkeys = []) (ok : HighOK e) (r : Nat) (hv : ValidRune r)
    (h80 : 0x80 ≤ r) (hnf : r ≠ 0xFFFD) (q' : List Nat) (hB : e.keys.buf ≠ []) (hq' : q' ≠ [])
    (hBq : e.keys.buf ++ q' = encodeRune r) :
    ∃ a bd cmd, matchMain e =
      ({ e with active := a, prefixed := Bind.none,
                keys := { e.keys with matched := runesOfBytes e.keys.buf, mustWait := true } },
        bd, cmd, true) := by
  have hE := (encodeRune_wf r hv h80).1
  -- the first rune of a cut character is U+FFFD, not the escape key
  have hesc : runesOfBytes e.keys.buf ≠ [0x1b] := by
    intro h
    obtain ⟨t, ht⟩ := hE.prefix_runes _ q' hBq hq' hB
    rw [ht] at h
    cases h
  obtain ⟨d, a, hd, hc⟩ := read_char ok hmk hE (decode_ne_fffd r hv hnf) hB hBq (Or.inr rfl) (List.append_nil _).symm
  rw [if_neg hq', decide_eq_false hq', Bool.not_false] at hc
  have hmm := matchMain_typed e hne hni hli hmk hd hc hB fun _ => Or.inr hesc
  refine ⟨a, a, hasCmd e a, hmm.trans ?_⟩
  simp only [if_true, List.append_nil, List.isEmpty_nil, Bool.and_self]

/-- `Good` for any text; `mustWait` is not constrained: a read may have been cut inside a character -/
structure GoodU (sh : Sh) (typed : List Nat) : Prop where
  tbl : TableOK sh.eng
  high : HighTbl sh.eng.mainTbl
  ins : sh.eng.insertsText = true
  line : sh.line = typed
  cur : sh.cur = typed.length
  hmk : sh.eng.keys.mkeys = []
  hni : sh.eng.nonInc = false
  hli : sh.eng.lisearch = false
  hpf : sh.eng.prefixed = Bind.none
  hacc : sh.accepted = none

/-- the bytes of a character cut by the end of a read are waiting in the buffer -/
def Pending (sh : Sh) (rest : List Nat) : Prop :=
  ∃ r0 rs q', rest = r0 :: rs ∧ 0x80 ≤ r0 ∧ q' ≠ [] ∧ sh.eng.keys.buf ++ q' = encodeRune r0

/-- what `Good` (all of `rest` printable) and `GoodU` share; `rest`: the characters still to come. The three, and
`HighOK`, name their common fields alike on purpose: `{ g with … }` carries them from one structure to another. -/
structure Typing (sh : Sh) (typed rest : List Nat) : Prop where
  tbl : TableOK sh.eng
  line : sh.line = typed
  cur : sh.cur = typed.length
  hmk : sh.eng.keys.mkeys = []
  hni : sh.eng.nonInc = false
  hli : sh.eng.lisearch = false
  hacc : sh.accepted = none
  ty : ∀ r ∈ rest, Typable r
  high : (∃ r ∈ rest, 0x80 ≤ r) → HighOK sh.eng
  om : sh.outputMeta = true ∨ ∀ r ∈ rest, ¬ (0x80 ≤ r ∧ r ≤ 0xff)

theorem iter_typable {sh : Sh} {typed : List Nat} {r : Nat} {rs : List Nat} (g : Typing sh typed (r :: rs))
    (R : List Nat) (hbuf : sh.eng.keys.buf = encodeRune r ++ R) :
    ∃ sh', iter sh = .ok sh' ∧ Typing sh' (typed ++ [r]) rs ∧ sh'.eng.keys.buf = R ∧
      sh'.eng.keys.mustWait = false := by
  have hty := g.ty r List.mem_cons_self
  have hm := matchMain_char { sh.eng with keys := sh.eng.keys.flushUsed } { g.tbl with } g.hni g.hli g.hmk r
    hty (fun h => { g.high ⟨r, List.mem_cons_self, h⟩ with }) R hbuf
  have hom := g.om.imp_right fun h => h r List.mem_cons_self
  refine ⟨_, iter_insert sh typed r _ g.line g.cur hty.ge20 hom hm rfl, ?_, rfl, rfl⟩
  exact { g with
    tbl := { g.tbl with }, line := rfl, cur := rfl
    ty := fun x hx => g.ty x (List.mem_cons_of_mem _ hx)
    high := fun ⟨x, hx, h⟩ => { g.high ⟨x, List.mem_cons_of_mem _ hx, h⟩ with hpf := rfl }
    om := g.om.imp id fun h x hx => h x (List.mem_cons_of_mem _ hx) }

theorem iter_partial {sh : Sh} {typed : List Nat} {r : Nat} {rs : List Nat} (g : Typing sh typed (r :: rs))
    (h80 : 0x80 ≤ r) (q' : List Nat) (hB : sh.eng.keys.buf ≠ []) (hq' : q' ≠ [])
    (hBq : sh.eng.keys.buf ++ q' = encodeRune r) :
    ∃ sh', iter sh = .ok sh' ∧ Typing sh' typed (r :: rs) ∧ sh'.eng.keys.buf = sh.eng.keys.buf ∧
      sh'.eng.keys.mustWait = true := by
  have ok := g.high ⟨r, List.mem_cons_self, h80⟩
  obtain ⟨hv, hnf⟩ := (g.ty r List.mem_cons_self).high h80
  obtain ⟨a, bd, cmd, hm⟩ := matchMain_partial { sh.eng with keys := sh.eng.keys.flushUsed } g.tbl.ne g.hni g.hli
    g.hmk { ok with } r hv h80 hnf q' hB hq' hBq
  exact ⟨_, (iter_eq sh hm).trans (if_pos rfl),
    { g with tbl := { g.tbl with }, high := fun _ => { ok with hpf := rfl } }, rfl, rfl⟩

/-- Return accepts the line, a whole character is appended to it, or the first bytes of one wait for the next read -/
theorem step_typed {sh : Sh} {typed rest : List Nat} (tail : List Nat) (g : Typing sh typed rest)
    (hB : sh.eng.keys.buf ≠ []) (hs : sh.eng.keys.buf ++ tail = utf8 rest ++ [13])
    (hmw : sh.eng.keys.mustWait = true → rest ≠ []) :
    ∃ sh', iter sh = .ok sh' ∧
      ((rest = [] ∧ sh'.accepted = some typed) ∨
       (∃ r0 rs, rest = r0 :: rs ∧ Typing sh' (typed ++ [r0]) rs ∧ sh'.eng.keys.buf ++ tail = utf8 rs ++ [13] ∧
          sh'.eng.keys.mustWait = false ∧ sh'.eng.keys.buf.length < sh.eng.keys.buf.length) ∨
       (Typing sh' typed rest ∧ sh'.eng.keys.buf = sh.eng.keys.buf ∧ sh'.eng.keys.mustWait = true ∧ rest ≠ [] ∧
          tail ≠ [])) := by
  cases rest with
  | nil =>
    obtain ⟨k, t, hb⟩ := List.exists_cons_of_ne_nil hB
    obtain rfl : k = 13 := by
      rw [hb] at hs
      exact (List.cons.inj hs).1
    obtain ⟨sh', h1, h2, _⟩ := iter_cr sh typed t { g with hmw := Bool.eq_false_iff.mpr fun h => hmw h rfl } hb
    exact ⟨sh', h1, Or.inl ⟨rfl, h2⟩⟩
  | cons r0 rs =>
    rw [utf8_cons, List.append_assoc] at hs
    have hne := List.length_pos_iff.mpr (encodeRune_ne_nil r0)
    rcases Nat.lt_or_ge sh.eng.keys.buf.length (encodeRune r0).length with hl | hl
    · obtain ⟨q', hq'⟩ := List.prefix_of_prefix_length_le ⟨tail, hs⟩ ⟨_, rfl⟩ (Nat.le_of_lt hl)
      have hq : q' ≠ [] := by
        intro h
        rw [h, List.append_nil] at hq'
        rw [hq'] at hl
        exact Nat.lt_irrefl _ hl
      have h80 : 0x80 ≤ r0 := Nat.le_of_not_lt fun h => by
        -- one byte cannot be cut
        rw [encodeRune_ascii r0 h] at hl
        exact hB (List.eq_nil_of_length_eq_zero (Nat.lt_one_iff.mp hl))
      obtain ⟨sh', h1, g2, hb2, hmw2⟩ := iter_partial g h80 q' hB hq hq'
      refine ⟨sh', h1, Or.inr (Or.inr ⟨g2, hb2, hmw2, List.cons_ne_nil _ _, fun h => hq ?_⟩)⟩
      rw [← hq', h, List.append_assoc] at hs
      exact (List.append_eq_nil_iff.mp (List.append_cancel_left hs).symm).1
    · obtain ⟨R, hR⟩ := List.prefix_of_prefix_length_le ⟨_, rfl⟩ ⟨tail, hs⟩ hl
      obtain ⟨sh', h1, g2, hb2, hmw2⟩ := iter_typable g R hR.symm
      refine ⟨sh', h1, Or.inr (Or.inl ⟨r0, rs, rfl, g2, ?_, hmw2, ?_⟩)⟩
      · rw [← hR, List.append_assoc] at hs
        rw [hb2]
        exact List.append_cancel_left hs
      · rw [hb2, ← hR, List.length_append]
        omega

/-- C02 in general. The fuel: every step of `run` takes a read off `chunks` or a character off the buffer, or (once
per character, with `mustWait` going up) finds a character incomplete. -/
theorem typed_returned : ∀ (fuel : Nat) (chunks : List (List Nat)) (sh : Sh) (typed rest : List Nat),
    Typing sh typed rest → sh.eng.keys.buf ++ chunks.flatten = utf8 rest ++ [13] →
    (sh.eng.keys.mustWait = true → rest ≠ [] ∧ chunks.flatten ≠ []) →
    sh.eng.keys.buf.length + chunks.flatten.length + chunks.length +
      (if sh.eng.keys.mustWait = true then 0 else 1) ≤ fuel →
    run fuel chunks sh = .ok (some (typed ++ rest)) := by
  intro fuel
  induction fuel with
  | zero =>
    intro chunks sh typed rest _ hbytes _ hfuel
    have hlen := congrArg List.length hbytes
    simp only [List.length_append, List.length_singleton] at hlen
    omega
  | succ n ih =>
    intro chunks sh typed rest g hbytes hpend hfuel
    -- an iteration on a non-empty buffer, after a read or without one
    have key : ∀ (sh1 : Sh) (chunks1 : List (List Nat)), Typing sh1 typed rest → sh1.eng.keys.buf ≠ [] →
        sh1.eng.keys.buf ++ chunks1.flatten = utf8 rest ++ [13] → (sh1.eng.keys.mustWait = true → rest ≠ []) →
        sh1.eng.keys.buf.length + chunks1.flatten.length + chunks1.length ≤ n →
        (do let sh' ← iter sh1; run n chunks1 sh') = .ok (some (typed ++ rest)) := by
      intro sh1 chunks1 g1 hB1 hs1 hmw1 hn1
      obtain ⟨sh', h1, hcase⟩ := step_typed chunks1.flatten g1 hB1 hs1 hmw1
      rw [h1]
      have hpos := List.length_pos_iff.mpr hB1
      rcases hcase with ⟨rfl, hacc⟩ | ⟨r0, rs, rfl, g2, hs2, hmw2, hlt⟩ | ⟨g2, hb2, hmw2, hr, ht⟩
      · obtain ⟨f, rfl⟩ : ∃ f, n = f + 1 := ⟨n - 1, by omega⟩
        exact (run_accepted f chunks1 sh' typed hacc).trans (by rw [List.append_nil])
      · rw [List.append_cons]
        refine ih chunks1 sh' _ rs g2 hs2 (fun h => Bool.noConfusion (hmw2.symm.trans h)) ?_
        rw [hmw2, if_neg Bool.false_ne_true]
        omega
      · rw [← hb2] at hs1 hn1
        refine ih chunks1 sh' typed rest g2 hs1 (fun _ => ⟨hr, ht⟩) ?_
        rw [hmw2, if_pos rfl]
        omega
    have hnr := needRead_typed g.hmk
    cases hn : needRead sh.eng.keys with
    | true =>
      cases chunks with
      | nil =>
        -- nothing left to read: then the buffer holds Return, and no character is pending
        rcases (Bool.or_eq_true _ _).mp (hnr.symm.trans hn) with h | h
        · rw [List.isEmpty_iff.mp h] at hbytes
          have hlen : 0 = (utf8 rest ++ [13]).length := congrArg List.length hbytes
          rw [List.length_append] at hlen
          exact absurd hlen (Nat.succ_ne_zero _).symm
        · exact absurd rfl (hpend h).2
      | cons c cs =>
        simp only [List.flatten_cons, List.length_append, List.length_cons] at hfuel hbytes hpend
        by_cases hc : c = []
        · subst hc
          rw [run_skip n cs sh g.hacc hn]
          exact ih cs sh typed rest g hbytes hpend (by omega)
        · rw [run_read n c cs sh g.hacc hn (List.isEmpty_eq_false_iff.mpr hc)]
          refine key (feed sh c) cs { g with tbl := { g.tbl with }, high := fun h => { g.high h with } }
            (fun h => hc (List.append_eq_nil_iff.mp h).2) (by rw [← hbytes]; exact List.append_assoc _ _ _)
            (fun h => (hpend h).1) ?_
          show (sh.eng.keys.buf ++ c).length + _ + _ ≤ n
          rw [List.length_append]
          split at hfuel <;> omega
    | false =>
      rw [run_noread n chunks sh g.hacc hn]
      obtain ⟨hb, hw⟩ := (Bool.or_eq_false_iff).mp (hnr.symm.trans hn)
      rw [hw, if_neg Bool.false_ne_true] at hfuel
      exact key sh chunks g (List.isEmpty_eq_false_iff.mp hb) hbytes (fun h => Bool.noConfusion (hw.symm.trans h))
        (by omega)

/-- C02, any Unicode text, any chunking; about twice the fuel `typed_returned` needs -/
theorem typed_unicode_returned : ∀ (fuel : Nat) (chunks : List (List Nat)) (sh : Sh) (typed rest : List Nat),
    GoodU sh typed → (∀ r ∈ rest, Typable r) →
    (sh.outputMeta = true ∨ ∀ r ∈ rest, ¬ (0x80 ≤ r ∧ r ≤ 0xff)) →
    sh.eng.keys.buf ++ chunks.flatten = utf8 rest ++ [13] →
    (sh.eng.keys.mustWait = true → Pending sh rest) →
    fuel > 2 * (sh.eng.keys.buf.length + chunks.flatten.length) + 2 * chunks.length +
      (if needRead sh.eng.keys = true then 0 else 1) →
    run fuel chunks sh = .ok (some (typed ++ rest)) := by
  intro fuel chunks sh typed rest g hty hom hbytes hpend hfuel
  refine typed_returned fuel chunks sh typed rest { g with ty := hty, high := fun _ => { g with }, om := hom } hbytes
    (fun h => ?_) ?_
  · -- the rest of the pending character is still to be read
    obtain ⟨r0, rs, q', rfl, _, hq', hq⟩ := hpend h
    refine ⟨List.cons_ne_nil _ _, fun hf => hq' ?_⟩
    rw [hf, utf8_cons, ← hq, List.append_assoc, List.append_assoc] at hbytes
    exact (List.append_eq_nil_iff.mp (List.append_cancel_left hbytes).symm).1
  · have hle : (if sh.eng.keys.mustWait = true then 0 else 1) ≤ 1 := by split <;> omega
    omega

/-- C02, ASCII, any chunking -/
theorem typed_ascii_returned : ∀ (fuel : Nat) (chunks : List (List Nat)) (sh : Sh) (typed rest : List Nat),
    Good sh typed → (∀ b ∈ rest, printable b) →
    sh.eng.keys.buf ++ chunks.flatten = rest ++ [13] →
    fuel > (sh.eng.keys.buf.length + chunks.flatten.length) + chunks.length →
    run fuel chunks sh = .ok (some (typed ++ rest)) := by
  intro fuel chunks sh typed rest g hp hbytes hfuel
  have hlow : ∀ r ∈ rest, r < 0x80 := fun r hr => Nat.lt_of_le_of_lt (hp r hr).2 (by decide)
  rw [← utf8_ascii hlow] at hbytes
  refine typed_returned fuel chunks sh typed rest
    { g with ty := fun r hr => Or.inl (hp r hr), high := fun ⟨r, hr, h⟩ => absurd (hlow r hr) (Nat.not_lt.mpr h),
             om := Or.inr fun r hr h => Nat.not_lt.mpr h.1 (hlow r hr) }
    hbytes (fun h => Bool.noConfusion (g.hmw.symm.trans h)) ?_
  rw [g.hmw, if_neg Bool.false_ne_true]
  omega

end RLV.Loop
