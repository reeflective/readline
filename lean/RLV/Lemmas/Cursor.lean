import RLV.Lemmas.Line
/-! `Cursor.CheckAppend` and `Cursor.CheckCommand` (internal/core/cursor.go), run after every command, the second in
the Vi command keymaps, the first elsewhere: the first only clamps; the second never indexes out of range and leaves
the cursor on a character, unless the buffer or the line the cursor is on is empty. -/
namespace RLV.Core

theorem checkAppend_pos (l : Line) (c : Cur) : (checkAppend l c).pos = max 0 (min c.pos (len l)) := by
  have hl := len_nonneg l
  simp only [checkAppend]
  omega

theorem checkAppend_range (l : Line) (c : Cur) :
    0 ≤ (checkAppend l c).pos ∧ (checkAppend l c).pos ≤ len l ∧
    ((checkAppend l c).mark = -1 ∨ (0 ≤ (checkAppend l c).mark ∧ (checkAppend l c).mark ≤ len l - 1)) := by
  have hl := len_nonneg l
  simp only [checkAppend]
  omega

theorem checkAppend_fix (l : Line) (c : Cur) (h0 : 0 ≤ c.pos) (h1 : c.pos ≤ len l) :
    (checkAppend l c).pos = c.pos := by
  rw [checkAppend_pos]
  omega

/-- `p` is on an empty line: between two newlines, or at an end of the buffer next to one -/
def OnEmptyLine (l : Line) (p : Int) : Prop :=
  (p = 0 ∧ charOf l 0 = 10) ∨ (p = len l ∧ 0 < p ∧ charOf l (p - 1) = 10) ∨
  (0 < p ∧ p < len l ∧ charOf l p = 10 ∧ charOf l (p - 1) = 10)

instance (l : Line) (p : Int) : Decidable (OnEmptyLine l p) := by
  unfold OnEmptyLine
  infer_instance

theorem onEmptyLine_spec (l : Line) (c : Cur) (hl : len l ≠ 0) (h0 : 0 ≤ c.pos) (h1 : c.pos ≤ len l) :
    onEmptyLine l c = .ok (decide (OnEmptyLine l c.pos)) := by
  -- each way through tests one or two runes; to `omega` they are opaque numbers, and it checks the test against
  -- `OnEmptyLine`
  have ret {b : Bool} {p : Prop} [Decidable p] (h : b = true ↔ p) : (Except.ok b : G Bool) = .ok (decide p) := by
    simp only [← h, Bool.decide_eq_true]
  fun_cases onEmptyLine l c with
  | case1 hempty => exact absurd hempty hl
  | case2 _ hp =>
    -- at 0
    rw [at_ok l c.pos h0 (by omega), hp]
    apply ret
    rw [beq_iff_eq, OnEmptyLine]
    omega
  | case3 =>
    -- at the end
    rw [at_ok l (c.pos - 1) (by omega) (by omega)]
    apply ret
    rw [beq_iff_eq, OnEmptyLine]
    omega
  | case4 =>
    -- inside
    rw [at_ok l c.pos h0 (by omega), at_ok l (c.pos - 1) (by omega) (by omega)]
    apply ret
    rw [Bool.and_eq_true, beq_iff_eq, beq_iff_eq, OnEmptyLine]
    omega

theorem charOf_len (l : Line) : charOf l (len l) = 0 := by
  unfold charOf len
  rw [Int.toNat_natCast, List.getD_eq_getElem?_getD, List.getElem?_eq_none (Nat.le_refl _), Option.getD_none]

theorem charAt_eq (l : Line) (c : Cur) (h0 : 0 ≤ c.pos) (h1 : c.pos ≤ len l) :
    charAt l c = .ok (charOf l c.pos) := by
  unfold charAt
  simp only [pure_eq, checkAppend_fix l c h0 h1]
  by_cases hlt : c.pos < len l
  · rw [if_neg (by omega), if_neg (by omega), at_ok l c.pos h0 hlt]
  · have he : c.pos = len l := by omega
    rw [he, charOf_len]
    by_cases hl : len l = 0
    · rw [if_pos hl]
    · rw [if_neg hl, if_pos (Int.le_refl _)]

theorem checkCommand_spec (l : Line) (c : Cur) :
    ∃ c', checkCommand l c = .ok c' ∧ 0 ≤ c'.pos ∧ c'.pos ≤ (checkAppend l c).pos ∧
      (len l = 0 ∨ OnEmptyLine l c'.pos ∨ (c'.pos < len l ∧ charOf l c'.pos ≠ 10)) := by
  obtain ⟨h0, h1, _⟩ := checkAppend_range l c
  unfold checkCommand
  generalize checkAppend l c = a at h0 h1 ⊢
  by_cases hl : len l = 0
  · refine ⟨a, ?_, h0, Int.le_refl _, Or.inl hl⟩
    simp only [onEmptyLine, charAt, hl, if_true, ok_bind, pure_eq, Bool.not_true, Bool.false_eq_true, and_false,
      if_false, gt_iff_lt, Int.lt_irrefl, false_and]
  -- the first test leaves the cursor on a character or on an empty last line
  refine bind_spec (fun a1 => 0 ≤ a1.pos ∧ a1.pos ≤ a.pos ∧ (a1.pos < len l ∨ OnEmptyLine l a1.pos)) ?_
    fun a1 ⟨g0, g1, g2⟩ => ?_
  · simp only [onEmptyLine_spec l a hl h0 h1, ok_bind, Bool.not_eq_true', decide_eq_false_iff_not]
    by_cases hend : a.pos = len l ∧ ¬ OnEmptyLine l a.pos
    · rw [if_pos hend]
      refine ⟨_, rfl, ?_, ?_, Or.inl ?_⟩ <;> (dsimp only; omega)
    · rw [if_neg hend]
      refine ⟨_, rfl, h0, Int.le_refl _, ?_⟩
      by_cases he : OnEmptyLine l a.pos
      · exact Or.inr he
      · have hne : a.pos ≠ len l := fun h' => hend ⟨h', he⟩
        exact Or.inl (by omega)
  · simp only [charAt_eq l a1 g0 (by omega), onEmptyLine_spec l a1 hl g0 (by omega), ok_bind, pure_eq,
      Bool.not_eq_true', decide_eq_false_iff_not]
    by_cases hnl : len l > 0 ∧ a1.pos < len l ∧ charOf l a1.pos = 10 ∧ ¬ OnEmptyLine l a1.pos
    · -- a newline not on an empty line is neither at 0 nor after another newline
      rw [if_pos hnl]
      unfold OnEmptyLine at hnl
      have hz : a1.pos ≠ 0 := by
        intro hz
        rw [hz] at hnl
        omega
      rw [if_pos (by omega)]
      refine ⟨_, rfl, ?_, ?_, Or.inr (Or.inr ⟨?_, ?_⟩)⟩ <;> (dsimp only; omega)
    · rw [if_neg hnl]
      refine ⟨_, rfl, g0, g1, ?_⟩
      by_cases he : OnEmptyLine l a1.pos
      · exact Or.inr (Or.inl he)
      · have hlt : a1.pos < len l := g2.resolve_right he
        exact Or.inr (Or.inr ⟨hlt, fun hc => hnl ⟨by omega, hlt, hc, he⟩⟩)

end RLV.Core
