import RLV.Model.MLoop
/-! The key stack as a queue: the keys in the order `PopKey` delivers them, and what taking `j` of them does to the two
queues and to the flags the main loop looks at. -/
namespace RLV

def Keys.pending (k : Keys) : Nat := k.buf.length + k.mkeys.length

theorem Keys.pending_zero {k : Keys} (h : k.pending = 0) : k.buf = [] ∧ k.mkeys = [] :=
  ⟨List.eq_nil_of_length_eq_zero (Nat.eq_zero_of_add_eq_zero_right h),
   List.eq_nil_of_length_eq_zero (Nat.eq_zero_of_add_eq_zero_left h)⟩

def Keys.popN : Nat → Keys → Keys
  | 0, k => k
  | n+1, k => Keys.popN n k.pop

/-- `k'` is `k` after `j` keys have been taken, as far as lengths and flags tell -/
structure PopRel (j : Nat) (k k' : Keys) : Prop where
  le : j ≤ k.pending
  buf : k'.buf.length = k.buf.length - j
  mks : k'.mkeys.length = k.mkeys.length - (j - k.buf.length)
  nested : k'.nested = k.nested
  wait : k'.mustWait = k.mustWait
  matched : k'.matched = k.matched
  flag : k'.fromMacro = (k.fromMacro || decide (k.buf.length < j))

theorem PopRel.pending {j : Nat} {k k' : Keys} (h : PopRel j k k') : k'.pending + j = k.pending := by
  have hle := h.le
  have hb := h.buf
  have hm := h.mks
  unfold Keys.pending at hle ⊢
  omega

/-- the keys waiting, as `PopKey` will deliver them: a fed key is a rune, delivered as `byte(rune)` -/
def Keys.stream (k : Keys) : Seq := k.buf ++ k.mkeys.map (· % 256)

theorem Keys.stream_length (k : Keys) : k.stream.length = k.pending := by
  rw [Keys.stream, List.length_append, List.length_map]
  rfl

theorem Keys.peek_eq : ∀ k : Keys, k.peek = k.stream.head?
  | { buf := [], mkeys := [], .. } | { buf := [], mkeys := _ :: _, .. } | { buf := _ :: _, .. } => rfl

theorem Keys.peek_none_iff (k : Keys) : k.peek = none ↔ k.pending = 0 := by
  rw [Keys.peek_eq, List.head?_eq_none_iff, ← Keys.stream_length, List.length_eq_zero_iff]

theorem Keys.pending_pos_of_peek {k : Keys} {a : Nat} (h : k.peek = some a) : 0 < k.pending :=
  Nat.pos_of_ne_zero fun hz => nomatch (k.peek_none_iff.mpr hz).symm.trans h

theorem Keys.stream_pop : ∀ k : Keys, k.pop.stream = k.stream.tail
  | { buf := [], mkeys := [], .. } | { buf := [], mkeys := _ :: _, .. } | { buf := _ :: _, .. } => rfl

theorem Keys.pop_idle : ∀ {k : Keys}, k.pending = 0 → k.pop = k
  | { buf := [], mkeys := [], .. }, _ => rfl
  | { buf := [], mkeys := _ :: _, .. }, h => absurd (Keys.pending_zero h).2 (List.cons_ne_nil _ _)
  | { buf := _ :: _, .. }, h => absurd (Keys.pending_zero h).1 (List.cons_ne_nil _ _)

theorem Keys.pop_pending : ∀ k : Keys, k.pop.pending = k.pending - 1
  | { buf := [], mkeys := [], .. } | { buf := [], mkeys := _ :: _, .. } => rfl
  | { buf := _ :: t, mkeys := m, .. } => by
    show t.length + m.length = t.length + 1 + m.length - 1
    omega

theorem Keys.matchedKeys_eq (k : Keys) {m : Seq} (hm : m ≠ []) (args : Seq) :
    k.matchedKeys m args = { k with matched := runesOfBytes m, buf := args ++ k.buf, mustWait := false } := by
  cases m with
  | nil => exact absurd rfl hm
  | cons _ _ => cases args <;> rfl

theorem Keys.matchedPrefix_eq (k : Keys) {p : Seq} (hp : p ≠ []) :
    k.matchedPrefix p = { k with mustWait := k.buf.isEmpty, buf := p ++ k.buf, matched := runesOfBytes p } := by
  cases p with
  | nil => exact absurd rfl hp
  | cons _ _ => rfl

theorem Keys.matchedKeys_pending (k : Keys) (m : Seq) :
    ∀ args : Seq, (k.matchedKeys m args).pending = k.pending + args.length
  | [] => rfl
  | _ :: _ => by
    simp only [Keys.matchedKeys, Keys.pending, List.isEmpty_cons, Bool.false_eq_true, if_false, List.length_append]
    omega

theorem Keys.matchedPrefix_pending (k : Keys) : ∀ p : Seq, (k.matchedPrefix p).pending = k.pending + p.length
  | [] => rfl
  | _ :: _ => by
    simp only [Keys.matchedPrefix, Keys.pending, List.isEmpty_cons, Bool.false_eq_true, if_false, List.length_append]
    omega

theorem Keys.popN_eq : ∀ (j : Nat) (k : Keys), j ≤ k.pending → k.popN j =
    { k with buf := k.buf.drop j, mkeys := k.mkeys.drop (j - k.buf.length),
             fromMacro := k.fromMacro || decide (k.buf.length < j) }
  | 0, k, _ => by
    simp only [Keys.popN, List.drop_zero, Nat.zero_sub, Nat.not_lt_zero, decide_false, Bool.or_false]
  | j+1, { buf := [], mkeys := [], .. }, h => nomatch h
  | j+1, { buf := [], mkeys := a :: t, .. }, h => by
    have hj : j ≤ 0 + t.length := by
      simp only [Keys.pending, List.length_nil, List.length_cons] at h
      omega
    rw [Keys.popN, Keys.pop, popN_eq j]
    · simp only [List.drop_nil, List.length_nil, Nat.sub_zero, List.drop_succ_cons, Nat.zero_lt_succ, decide_true,
        Bool.true_or, Bool.or_true]
    · exact hj
  | j+1, { buf := a :: t, mkeys := m, .. }, h => by
    have hj : j ≤ t.length + m.length := by
      simp only [Keys.pending, List.length_cons] at h
      omega
    rw [Keys.popN, Keys.pop, popN_eq j]
    · simp only [List.drop_succ_cons, List.length_cons, Nat.add_sub_add_right, Nat.add_lt_add_iff_right]
    · exact hj

theorem Keys.popN_add : ∀ (a b : Nat) (k : Keys), (k.popN a).popN b = k.popN (a + b)
  | 0, b, k => by
    rw [Nat.zero_add]
    rfl
  | a+1, b, k => by
    rw [Nat.add_right_comm]
    exact popN_add a b k.pop

theorem PopRel.popN {j : Nat} {k : Keys} (h : j ≤ k.pending) : PopRel j k (k.popN j) := by
  rw [Keys.popN_eq j k h]
  exact { le := h, buf := List.length_drop, mks := List.length_drop,
          nested := rfl, wait := rfl, matched := rfl, flag := rfl }

namespace MLoop

theorem needRead_iff (k : Keys) : needRead k = true ↔ k.mkeys = [] ∧ (k.buf = [] ∨ k.mustWait = true) := by
  simp only [needRead, Bool.not_or, Bool.not_and, Bool.not_not, Bool.and_eq_true, Bool.or_eq_true, List.isEmpty_iff]
  exact And.comm

theorem needRead_of_idle {k : Keys} (hz : k.pending = 0) : needRead k = true :=
  (needRead_iff k).mpr ⟨(Keys.pending_zero hz).2, Or.inl (Keys.pending_zero hz).1⟩

end MLoop

end RLV
