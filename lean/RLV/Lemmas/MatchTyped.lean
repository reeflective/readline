import RLV.Lemmas.DispatchKeys
/-! `MatchMain` and `MatchLocal` (Model/Keys.lean) on typed keys, as equations: from the list-level result `r` of the
dispatch, stage by stage. -/
namespace RLV

theorem hasCmd_reg {e : Eng} {name : String} (h : e.registered.contains name = true) :
    hasCmd e ⟨name, false⟩ = true := by
  simp only [hasCmd, h, Bool.not_false, Bool.and_self]

theorem nonIncOverrideR_off (e : Eng) (bind : Bind) (pfx : Bool) (read : Seq) (h : e.nonInc = false) :
    nonIncOverrideR e bind pfx read = (e, bind, pfx) := by
  simp only [nonIncOverrideR, nonIncOverride, h, Bool.false_and, Bool.false_eq_true, if_false, ite_self]

theorem matchCharacter_off (e : Eng) (bd : Bind) (pfx : Bool) (read : Seq)
    (h : bd.action ≠ "" ∨ pfx = true ∨ read.headD 0 < 0x80) :
    matchCharacter e bd pfx read = (e, bd, pfx, read) := by
  rw [matchCharacter, if_neg]
  rintro ⟨h1, h2, h3, -⟩
  rcases h with h | h | h
  · exact h h1
  · exact Bool.noConfusion (h2.symm.trans h)
  · exact Nat.not_lt.mpr h3 h

/-- `hc`: what the multibyte fallback makes of the dispatcher's result `r`: `rd` the bytes read in all, `T` those left
(`matchCharacter_off` is `hc` at `a pf T rd := r.bind r.prefixed r.rest r.read`, `Eng.after` unfolded); `hesc`: a
prefix is not a lone escape key in a Vi keymap (`handleEscape`) -/
theorem matchMain_typed (e : Eng) (hne : e.mainTbl.isEmpty = false) (hni : e.nonInc = false) (hli : e.lisearch = false)
    (hmk : e.keys.mkeys = []) {r : DResult} (hr : dispatch e.mainTbl e.keys.buf [] [] false e.prefixed e.active = r)
    {a pf bd : Bind} {T rd : Seq} {pfx : Bool}
    (hc : matchCharacter (e.after r) r.bind r.pfx r.read =
      ({ e with active := a, prefixed := pf, keys := { e.keys with buf := T } }, bd, pfx, rd))
    (hrd : rd ≠ []) (hesc : pfx = true → e.isEmacs = true ∨ runesOfBytes rd ≠ [0x1b]) :
    matchMain e =
      ({ e with active := a, prefixed := pf,
                keys := { e.keys with buf := if pfx then rd ++ T else T, matched := runesOfBytes rd,
                                      mustWait := pfx && T.isEmpty } },
        bd, hasCmd e bd, pfx) := by
  have hmb : e.mainBinds = e.mainTbl := by simp only [Eng.mainBinds, hni, hli, Bool.false_eq_true, if_false]
  have hd := dispatchKeys_eq e.mainTbl (e.keys.buf.length + e.keys.mkeys.length) e _ rfl hmk
    (Nat.le_add_right _ _)
  rw [hr] at hd
  unfold matchMain
  simp only [hmb, hne, Bool.false_eq_true, if_false, hd, show (e.after r).active = r.bind from rfl, hc]
  cases pfx with
  | false =>
    simp only [Bool.false_eq_true, if_false, Keys.matchedKeys_eq _ hrd, nonIncOverrideR_off, hni, Bool.and_false]
    rfl
  | true =>
    -- `handleEscape(true)` is for a lone escape key read as a prefix in the Vi keymaps
    have hnoesc : (runesOfBytes rd == [0x1b] && !e.isEmacs) = false := by
      rcases hesc rfl with h | h
      · rw [h]
        exact Bool.and_false _
      · rw [beq_eq_false_iff_ne.mpr h]
        rfl
    simp only [if_true, Keys.matchedPrefix_eq _ hrd, nonIncOverrideR_off, hni, isEscapeKey, hnoesc, Bool.false_and,
      Bool.false_eq_true, if_false]
    rfl

theorem matchLocal_nil (e : Eng) (is : Bool) : matchLocal e [] is = (e, Bind.none, false, false) := rfl

/-- the keys read after the last matched one go back in front of the buffer -/
theorem matchLocal_typed (e : Eng) {ltbl : List (Seq × Bind)} (is : Bool) (hne : ltbl.isEmpty = false)
    (hmk : e.keys.mkeys = []) {r : DResult} (hr : dispatch ltbl e.keys.buf [] [] false e.prefixed e.active = r)
    (hp : r.pfx = false) (hm : r.matched ≠ []) (hesc : runesOfBytes r.matched ≠ [0x1b]) :
    matchLocal e ltbl is =
      ({ e with active := r.bind, prefixed := r.prefixed,
                keys := { e.keys with buf := r.read.drop r.matched.length ++ r.rest, matched := runesOfBytes r.matched,
                                      mustWait := false } },
        r.bind, hasCmd e r.bind, false) := by
  have hd := dispatchKeys_eq ltbl (e.keys.buf.length + e.keys.mkeys.length) e _ rfl hmk
    (Nat.le_add_right _ _)
  rw [hr] at hd
  unfold matchLocal
  simp only [hne, Bool.false_eq_true, if_false, hd, hp, Keys.matchedKeys_eq _ hm, isEscapeKey,
    beq_eq_false_iff_ne.mpr hesc, Bool.false_and]
  rfl

end RLV
