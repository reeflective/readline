import RLV.Model.Tok
import RLV.Lemmas.G
import RLV.Lemmas.Utf8
/-! The word tokenizer keeps its index inside the list of tokens and its offset non-negative: `Line.ForwardEnd` and
`Line.Backward` on what `Line.Tokenize` returns never index out of range (C01), and `Line.Backward` never asks to
move forward (C16). `Line.Forward` and `Line.TokenizeSpace` of Model/Tok.lean are compared with the code only. -/
namespace RLV.Tok
open RLV RLV.Core

theorem addLast_eq (sp : List (List Nat)) (c : Nat) : addLast sp c = sp.dropLast ++ [sp.getLastD [] ++ [c]] := by
  fun_cases addLast sp c with
  | case1 h =>
    rw [List.reverse_eq_nil_iff.mp h]
    rfl
  | case2 t r h =>
    rw [List.reverse_eq_cons_iff.mp h, List.dropLast_concat, List.getLastD_concat]

theorem addLast_length (sp : List (List Nat)) (c : Nat) (h : 1 ≤ sp.length) : (addLast sp c).length = sp.length := by
  rw [addLast_eq, List.length_append, List.length_dropLast, List.length_singleton]
  omega

theorem addLast_length_ge (sp : List (List Nat)) (c : Nat) : 1 ≤ (addLast sp c).length := by
  rw [addLast_eq, List.length_append, List.length_singleton]
  omega

theorem addLast_last (sp : List (List Nat)) (c : Nat) : (addLast sp c).getLastD [] = sp.getLastD [] ++ [c] := by
  rw [addLast_eq, List.getLastD_concat]

theorem blen_snoc_pos (t : List Nat) (c : Nat) : 1 ≤ blen (t ++ [c]) := by
  unfold blen utf8
  rw [List.flatMap_append, List.length_append]
  have : (List.flatMap encodeRune [c]).length ≠ 0 := by
    simp only [List.flatMap_cons, List.flatMap_nil, List.append_nil]
    intro h
    exact encodeRune_ne_nil c (List.length_eq_zero_iff.mp h)
  omega

/-- what every step of the loop of `Line.Tokenize` keeps -/
def TS.Inv (s : TS) : Prop := 1 ≤ s.split.length ∧ 0 ≤ s.index ∧ s.index ≤ lastIdx s ∧ 0 ≤ s.pos

theorem tokStep_inv (line : List Nat) (cpos : Int) (s : TS) (i : Nat) (h : s.Inv) : (tokStep line cpos s i).Inv := by
  -- `tokStep` first appends the rune to the last token, after opening a new token or not (`sp`), and sets `punc`:
  -- that is `s1`; then the cursor is looked at
  have key (s1 : TS) (hs1 : ∃ sp p, (sp = s.split ∨ sp = s.split ++ [[]]) ∧
        s1 = { s with split := addLast sp (line.getD i 0), punc := p }) :
      TS.Inv (if (i : Int) = cpos then { s1 with index := lastIdx s1, pos := lastLen s1 - 1 } else s1) := by
    obtain ⟨sp, p, hsp, rfl⟩ := hs1
    have hsl : s.split.length ≤ sp.length := by
      rcases hsp with rfl | rfl
      · exact Nat.le_refl _
      · rw [List.length_append]
        exact Nat.le_add_right _ _
    unfold TS.Inv lastIdx at h
    have hlen := addLast_length sp (line.getD i 0) (by omega)
    -- when the cursor is on this rune it is in the last token, which has just received the rune
    have hlast := blen_snoc_pos (sp.getLastD []) (line.getD i 0)
    by_cases hcur : (i : Int) = cpos
    · rw [if_pos hcur]
      simp only [TS.Inv, lastIdx, lastLen, addLast_last, hlen]
      omega
    · rw [if_neg hcur]
      simp only [TS.Inv, lastIdx, hlen]
      omega
  have hsp (C : Prop) [Decidable C] : (if C then s.split ++ [[]] else s.split) = s.split ∨
      (if C then s.split ++ [[]] else s.split) = s.split ++ [[]] := by
    split
    · exact Or.inr rfl
    · exact Or.inl rfl
  unfold tokStep
  refine key _ ?_
  -- punctuation; blank; newline; any other rune
  split
  · exact ⟨_, _, hsp _, rfl⟩
  · split
    · exact ⟨_, _, Or.inl rfl, rfl⟩
    · split
      · exact ⟨_, _, hsp _, rfl⟩
      · exact ⟨_, _, hsp _, rfl⟩

/-- `tk` is (tokens, index, offset) as `Line.Tokenize` returns them: `ForwardEnd` and `Backward` read `tokens[index]`
unchecked -/
def IndexOK (tk : List (List Nat) × Int × Int) : Prop :=
  (tk.1 ≠ [] → 0 ≤ tk.2.1 ∧ tk.2.1 < tk.1.length) ∧ 0 ≤ tk.2.2

theorem tokenize_indexOK (line : List Nat) (cpos : Int) : IndexOK (tokenize line cpos) := by
  unfold tokenize
  split
  · exact ⟨fun h => absurd rfl h, Int.le_refl _⟩
  · have h0 : TS.Inv {} := ⟨by decide, by decide, by decide, by decide⟩
    obtain ⟨hlen, hi0, hi1, hpos⟩ := List.foldlRecOn (motive := TS.Inv) (List.range line.length)
      (tokStep line (clampPos line cpos)) h0 fun s h i _ => tokStep_inv line _ s i h
    dsimp only
    generalize (List.range line.length).foldl (tokStep line (clampPos line cpos)) {} = st at hlen hi0 hi1 hpos ⊢
    unfold lastIdx at hi1
    split
    · -- the cursor at the end of the line: the last token, all of it
      have hidx : 0 ≤ lastIdx st ∧ lastIdx st < (st.split.length : Int) := by
        unfold lastIdx
        omega
      have hoff : 0 ≤ lastLen st := by
        unfold lastLen blen
        omega
      exact ⟨fun _ => hidx, hoff⟩
    · have hlt : st.index < (st.split.length : Int) := by omega
      exact ⟨fun _ => ⟨hi0, hlt⟩, hpos⟩

theorem tokAt_ok (split : List (List Nat)) (i : Int) (h0 : 0 ≤ i) (h1 : i < split.length) :
    tokAt split i = .ok (split.getD i.toNat []) := by
  unfold tokAt
  rw [if_neg (by omega)]
  rfl

theorem forwardEnd_total (tk : List (List Nat) × Int × Int) (h : IndexOK tk) : Ok (forwardEnd tk) := by
  obtain ⟨split, index, pos⟩ := tk
  unfold forwardEnd
  refine .unless fun he => ?_
  obtain ⟨h0, h1⟩ := h.1 fun h => he (List.isEmpty_iff.mpr h)
  dsimp only at h0 h1
  refine .bind (tokAt_ok split index h0 h1) (.unless fun hc => .cases (fun hp => ?_) fun _ => .ret _)
  -- not in the last token: there is a next one
  have hne : index ≠ (split.length : Int) - 1 := fun e => hc ⟨e, hp⟩
  exact .bind (tokAt_ok split (index + 1) (by omega) (by omega)) (.bind (tokAt_ok split index h0 h1) (.ret _))

theorem backward_spec (tk : List (List Nat) × Int × Int) (h : IndexOK tk) :
    ∃ a, backward tk = .ok a ∧ a ≤ 0 := by
  fun_cases backward tk with
  | case1 | case2 =>
    -- no tokens, or at the very start
    exact ⟨0, rfl, Int.le_refl _⟩
  | case3 split index hne hc =>
    -- at the start of a token, not the first: back over the previous one
    obtain ⟨h0, h1⟩ := h.1 fun e => hne (List.isEmpty_iff.mpr e)
    have hi : index ≠ 0 := fun e => hc ⟨e, rfl⟩
    dsimp only at h0 h1
    rw [tokAt_ok split (index - 1) (by omega) (by omega)]
    refine ⟨_, rfl, ?_⟩
    unfold blen
    omega
  | case4 split index pos =>
    -- inside a token
    have hpos : 0 ≤ pos := h.2
    exact ⟨_, rfl, by omega⟩

end RLV.Tok
