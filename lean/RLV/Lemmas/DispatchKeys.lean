import RLV.Lemmas.KeyQueue
import RLV.Lemmas.Dispatch
/-! `dispatchKeys` (the function the differential compares with internal/keymap/dispatch.go) is the list-level
`dispatch` run on the keys of the stack in the order `PopKey` delivers them, typed or fed. -/
namespace RLV

theorem dispatchKeys_from (tbl : List (Seq × Bind)) (k : Keys) (n : Nat) (e : Eng) (read matched : Seq) (pfx : Bool)
    (hk : e.keys = k.popN read.length) :
    dispatchKeys tbl n e read matched pfx =
      (let r := dispatch tbl (e.keys.stream.take n) read matched pfx e.prefixed e.active
       ({ e with keys := k.popN r.read.length, prefixed := r.prefixed, active := r.bind },
        r.pfx, r.read, r.matched)) := by
  induction n generalizing e read matched pfx with
  | zero => simp only [dispatchKeys, List.take_zero, dispatch, ← hk]
  | succ n ih =>
    cases hs : e.keys.stream with
    | nil =>
      have hp : e.keys.peek = none := (Keys.peek_eq _).trans (congrArg List.head? hs)
      simp only [dispatchKeys, hp, List.take_nil, dispatch, ← hk]
    | cons a t =>
      have hp : e.keys.peek = some a := (Keys.peek_eq _).trans (congrArg List.head? hs)
      have hk' : e.keys.pop = k.popN (read ++ [a]).length := by
        rw [hk, List.length_append, List.length_singleton, ← Keys.popN_add]
        rfl
      rw [dispatchKeys, hp, List.take_succ_cons, dispatch]
      dsimp only
      generalize matchBind (read ++ [a]) tbl = m
      -- the three branches of `dispatch`, the same on both sides
      by_cases h1 : m.1.action = "" ∧ m.2 = false
      · simp only [if_pos h1, hk']
      · by_cases h2 : m.2 = true
        · simp only [if_neg h1, if_pos h2]
          let e' : Eng := { e with keys := e.keys.pop, prefixed := if m.1.action ≠ "" then m.1 else e.prefixed }
          have ht : e'.keys.stream = t := (Keys.stream_pop _).trans (congrArg List.tail hs)
          rw [ih e' _ _ _ hk', ht]
        · simp only [if_neg h1, if_neg h2, hk']

theorem dispatchKeys_take (tbl : List (Seq × Bind)) (n : Nat) (e : Eng) :
    dispatchKeys tbl n e [] [] false =
      (let r := dispatch tbl (e.keys.stream.take n) [] [] false e.prefixed e.active
       ({ e with keys := e.keys.popN r.read.length, prefixed := r.prefixed, active := r.bind },
        r.pfx, r.read, r.matched)) :=
  dispatchKeys_from tbl e.keys n e [] [] false rfl

/-- the engine after a dispatch with list-level result `r`, only typed keys waiting -/
def Eng.after (e : Eng) (r : DResult) : Eng :=
  { e with keys := { e.keys with buf := r.rest }, prefixed := r.prefixed, active := r.bind }

theorem dispatchKeys_eq (tbl : List (Seq × Bind)) (n : Nat) (e : Eng) (ks : Seq)
    (hb : e.keys.buf = ks) (hmk : e.keys.mkeys = []) (hn : ks.length ≤ n) :
    dispatchKeys tbl n e [] [] false =
      (let r := dispatch tbl ks [] [] false e.prefixed e.active
       (e.after r, r.pfx, r.read, r.matched)) := by
  subst hb
  have hst : e.keys.stream = e.keys.buf := by rw [Keys.stream, hmk, List.map_nil, List.append_nil]
  have sp := dispatch_spec tbl e.keys.buf [] [] false e.prefixed e.active
  rw [dispatchKeys_take, hst, List.take_of_length_le hn]
  generalize dispatch tbl e.keys.buf [] [] false e.prefixed e.active = r at sp ⊢
  have hle : r.read.length ≤ e.keys.buf.length := (Nat.zero_add _).subst sp.read_le
  have hrest : r.rest = e.keys.buf.drop r.read.length := sp.rest_eq
  -- `popN` takes typed keys only, and leaves those the dispatch did not read
  dsimp only
  rw [Keys.popN_eq _ _ (Nat.le_trans hle (Nat.le_add_right _ _)), ← hrest, decide_eq_false (Nat.not_lt.mpr hle)]
  simp only [hmk, List.drop_nil, Bool.or_false, Eng.after]

theorem dispatch_read_le_pending (tbl : List (Seq × Bind)) (n : Nat) (e : Eng) :
    (dispatch tbl (e.keys.stream.take n) [] [] false e.prefixed e.active).read.length ≤ e.keys.pending := by
  have hrl := (dispatch_spec tbl (e.keys.stream.take n) [] [] false e.prefixed e.active).read_le
  have htk : (e.keys.stream.take n).length ≤ e.keys.pending := by
    rw [List.length_take, Keys.stream_length]
    exact Nat.min_le_right _ _
  exact Nat.le_trans ((Nat.zero_add _).subst hrl) htk

/-- the typed keys of an engine moved to the macro queue (for the statement of C18); `f`: the `fromMacro` flag, raised
once a key is taken from there -/
def Eng.asFedF (f : Bool) (e : Eng) : Eng :=
  { e with keys := { e.keys with buf := [], mkeys := e.keys.buf, fromMacro := f } }

def Eng.asFed (e : Eng) : Eng := e.asFedF e.keys.fromMacro

end RLV
