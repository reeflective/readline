import RLV.Lemmas.G
/-! The line of runes (internal/core/line.go): Go's index and slice expressions inside the line, then `Line.Cut`
and `Line.Insert` on a range inside it. Cutting `[b, e)` and inserting the removed text back at `b` restores the
line (C16). -/
namespace RLV.Core

theorem len_nonneg (l : Line) : 0 ≤ len l := by
  unfold len
  omega

/-- the rune Go's `l[i]` reads for an index inside the line (`at_ok`); 0 past the end, a negative index counts as 0 -/
def charOf (l : Line) (i : Int) : Nat := l.getD i.toNat 0

theorem at_ok (l : Line) (i : Int) (h0 : 0 ≤ i) (h1 : i < len l) : at_ l i = .ok (charOf l i) := by
  unfold at_
  rw [if_neg (by omega)]
  rfl

theorem from_ok (l : Line) (a : Int) (h0 : 0 ≤ a) (h1 : a ≤ len l) : from_ l a = .ok (l.drop a.toNat) := by
  unfold from_
  rw [if_neg (by omega)]

theorem upto_ok (l : Line) (a : Int) (h0 : 0 ≤ a) (h1 : a ≤ len l) : upto l a = .ok (l.take a.toNat) := by
  unfold upto
  rw [if_neg (by omega), if_neg (by omega)]

theorem stripZerosAux_noZero (n : Nat) (cs : List Nat) (hnz : ∀ c ∈ cs, c ≠ 0) : stripZerosAux n cs = cs := by
  fun_cases stripZerosAux n cs with
  | case2 n cs hlast =>
    exact absurd (List.mem_of_getLast? hlast.2) fun hm => hnz 0 hm rfl
  | _ => rfl

theorem stripZeros_noZero (cs : List Nat) (hnz : ∀ c ∈ cs, c ≠ 0) : stripZeros cs = cs :=
  stripZerosAux_noZero _ _ hnz

theorem checkRange_inside (l : Line) (b e : Int) (hb : 0 ≤ b) (hbe : b ≤ e) (he : e ≤ len l) :
    checkRange l b e = (b, e, true) := by
  have h1 : ¬ (b = -1 ∧ e = -1) := by omega
  have h2 : ¬ e > len l := by omega
  have h3 : ¬ b < 0 := by omega
  have h4 : ¬ (e > -1 ∧ e < b) := by omega
  simp only [checkRange, h1, h2, h3, h4, if_false]

/-- Go `l[b:e]`, for `0 ≤ b ≤ e ≤ len l` -/
def slice (l : Line) (b e : Int) : List Nat := (l.drop b.toNat).take (e.toNat - b.toNat)

theorem cut_spec (l : Line) (b e : Int) (hb : 0 ≤ b) (hbe : b ≤ e) (he : e ≤ len l) :
    cut l b e = .ok (l.take b.toNat ++ l.drop e.toNat) := by
  have h : ¬ e = -1 := by omega
  simp only [cut, checkRange_inside l b e hb hbe he, h, from_ok l e (by omega) he, upto_ok l b hb (by omega),
    Bool.not_true, Bool.false_eq_true, if_false, ok_bind, pure_eq]

theorem len_cut (l : Line) (b e : Int) (hb : 0 ≤ b) (hbe : b ≤ e) (he : e ≤ len l) :
    len (l.take b.toNat ++ l.drop e.toNat) = b + (len l - e) := by
  unfold len at he ⊢
  rw [List.length_append, List.length_take, List.length_drop]
  omega

/-- as `Selection.Text` and `Selection.Pop` write it -/
theorem slice_eq (l : Line) (b e : Int) (hb : 0 ≤ b) (hbe : b ≤ e) :
    (l.drop b.toNat).take (e - b).toNat = slice l b e := by
  unfold slice
  congr 1
  omega

theorem slice_all (l : Line) : slice l 0 (len l) = l := by
  unfold slice len
  rw [Int.toNat_zero, Int.toNat_natCast, List.drop_zero, Nat.sub_zero, List.take_length]

theorem slice_back (l : Line) (b e : Int) (hbe : b ≤ e) (he : e ≤ len l) :
    (l.take b.toNat ++ l.drop e.toNat).take b.toNat ++ slice l b e ++ (l.take b.toNat ++ l.drop e.toNat).drop b.toNat
      = l := by
  unfold len at he
  have htl : (l.take b.toNat).length = b.toNat := by
    rw [List.length_take]
    omega
  have hd : l.drop e.toNat = (l.drop b.toNat).drop (e.toNat - b.toNat) := by
    rw [List.drop_drop]
    congr 1
    omega
  rw [List.take_append_of_le_length (by omega), List.take_of_length_le (by omega),
    List.drop_append_of_le_length (by omega), List.drop_of_length_le (by omega), List.nil_append,
    List.append_assoc, slice, hd, List.take_append_drop, List.take_append_drop]

theorem insert_spec (l : Line) (p : Int) (v : List Nat) (hnz : ∀ c ∈ v, c ≠ 0) (h0 : 0 ≤ p) (h1 : p ≤ len l) :
    insert l p v = .ok (l.take p.toNat ++ v ++ l.drop p.toNat) := by
  suffices h : insert l p v = .ok (l.take p.toNat ++ stripZeros v ++ l.drop p.toNat) by
    rwa [stripZeros_noZero v hnz] at h
  fun_cases insert l p v with
  | case1 hout =>
    omega
  | case2 _ _ hl =>
    rw [List.length_eq_zero_iff.mp (Int.ofNat_eq_zero.mp hl), List.take_nil, List.drop_nil, List.nil_append,
      List.append_nil]
    rfl
  | case3 =>
    -- before the end
    rw [from_ok l p h0 h1, upto_ok l p h0 h1]
    rfl
  | case4 _ _ _ hge =>
    have hlen : l.length ≤ p.toNat := by
      unfold len at hge h1
      omega
    rw [List.take_of_length_le hlen, List.drop_of_length_le hlen, List.append_nil]
    rfl

theorem cut_insert_id (l : Line) (b e : Int) (hb : 0 ≤ b) (hbe : b ≤ e) (he : e ≤ len l)
    (hnz : ∀ c ∈ l, c ≠ 0) :
    ∃ l', cut l b e = .ok l' ∧ insert l' b (slice l b e) = .ok l := by
  refine ⟨_, cut_spec l b e hb hbe he, ?_⟩
  have hsl : ∀ c ∈ slice l b e, c ≠ 0 := fun c hc =>
    hnz c (List.mem_of_mem_drop (List.mem_of_mem_take hc))
  have hin : b ≤ len (l.take b.toNat ++ l.drop e.toNat) := by
    rw [len_cut l b e hb hbe he]
    omega
  rw [insert_spec _ b _ hsl hb hin, slice_back l b e hbe he]

example : ∃ l', cut [97, 98, 32, 99] 1 3 = .ok l' ∧ insert l' 1 (slice [97, 98, 32, 99] 1 3) = .ok [97, 98, 32, 99] :=
  cut_insert_id _ 1 3 (by decide) (by decide) (by decide) (by decide)

end RLV.Core
