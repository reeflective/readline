import RLV.Model.HistWrite
/-! What C08 needs of `Sources.Accept`: whether and what it writes, source by source (`accept_eq`), and that
`strings.TrimSpace`-style trimming (`dropWhile` at both ends, for any predicate) is idempotent. -/
namespace RLV

theorem HistW.accept_eq (infer err : Bool) (maxE : Int) (line : Str) (srcs : List (Str × Src)) :
    accept infer err maxE line srcs =
      if err = true ∨ infer = true ∨ (trim line).isEmpty = true then srcs
      else srcs.map fun e => (e.1, writeOne maxE line e.2) := by
  unfold accept write
  cases err <;> cases infer <;> simp only [Bool.false_eq_true, ↓reduceIte, false_or, true_or, or_true]

namespace Trim

variable {α : Type} (p : α → Bool)

def rtrim (l : List α) : List α := ((l.reverse).dropWhile p).reverse
def trimP (l : List α) : List α := rtrim p (l.dropWhile p)

theorem dropWhile_eq_self_of_head (l : List α) (h : ∀ a, l.head? = some a → p a = false) :
    l.dropWhile p = l := by
  cases l with
  | nil => rfl
  | cons a t => exact List.dropWhile_cons_of_neg (Bool.eq_false_iff.mp (h a rfl))

theorem head_dropWhile (l : List α) (a : α) (h : (l.dropWhile p).head? = some a) : p a = false := by
  have hd : match (l.dropWhile p).head? with | some x => p x = false | none => True := List.head?_dropWhile_not p l
  rw [h] at hd
  exact hd

theorem dropWhile_idem (l : List α) : (l.dropWhile p).dropWhile p = l.dropWhile p :=
  dropWhile_eq_self_of_head p _ (head_dropWhile p l)

theorem rtrim_idem (l : List α) : rtrim p (rtrim p l) = rtrim p l := by
  rw [rtrim, rtrim, List.reverse_reverse, dropWhile_idem]

theorem rtrim_prefix (l : List α) : ∃ suf, l = rtrim p l ++ suf := by
  refine ⟨((l.reverse).takeWhile p).reverse, ?_⟩
  rw [rtrim, ← List.reverse_append, List.takeWhile_append_dropWhile, List.reverse_reverse]

theorem trimP_idem (l : List α) : trimP p (trimP p l) = trimP p l := by
  unfold trimP
  obtain ⟨suf, hsuf⟩ := rtrim_prefix p (l.dropWhile p)
  -- trimmed on the right, the list still begins as `l.dropWhile p` does (or is empty): nothing to drop on the left
  have hhead : ∀ a, (rtrim p (l.dropWhile p)).head? = some a → p a = false := by
    intro a ha
    apply head_dropWhile p l a
    rw [hsuf, List.head?_append, ha]
    rfl
  rw [dropWhile_eq_self_of_head p _ hhead, rtrim_idem]

end Trim

end RLV
