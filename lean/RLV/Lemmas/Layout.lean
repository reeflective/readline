import RLV.Model.Disp
/-! The layout arithmetic of the redisplay (`core.CoordinatesLine`, `core.CoordinatesCursor` as modelled in
Model/Disp.lean, width-1 glyphs) on a buffer given as lines joined by newlines: the rows used and the cursor cell are
those of the lines laid out one below the other, each from the indentation on, wrapped at the width. -/
namespace RLV

/-- rows of the block of one line: its text from the indentation on, wrapped, its last row whole -/
def Term.blockRows (w indent : Nat) (ln : List Nat) : Nat := (ln.length + indent) / w + 1

def Term.rowsOfLines (w indent : Nat) : List (List Nat) → Nat
  | [] => 0
  | ln :: t => blockRows w indent ln + rowsOfLines w indent t

namespace Disp
open Term

def joinNL : List (List Nat) → List Nat
  | [] => []
  | [a] => a
  | a :: b :: t => a ++ 10 :: joinNL (b :: t)

/-- the step of the fold of `splitNL`: the lines closed so far, and the open one -/
abbrev nlStep (acc : List (List Nat) × List Nat) (c : Nat) : List (List Nat) × List Nat :=
  if c = 10 then (acc.1 ++ [acc.2], []) else (acc.1, acc.2 ++ [c])

theorem splitNL_eq (l : List Nat) : splitNL l = (l.foldl nlStep ([], [])).1 ++ [(l.foldl nlStep ([], [])).2] := rfl

/-- the step is `nlStep`, written out as the body of `splitNL` has it -/
theorem splitNL_fold (l : List Nat) (h : 10 ∉ l) : ∀ (a : List (List Nat)) (b : List Nat),
    l.foldl (fun (acc : List (List Nat) × List Nat) c =>
      if c = 10 then (acc.1 ++ [acc.2], []) else (acc.1, acc.2 ++ [c])) (a, b) = (a, b ++ l) := by
  induction l with
  | nil =>
    intro a b
    rw [List.foldl_nil, List.append_nil]
  | cons c t ih =>
    intro a b
    have hc : c ≠ 10 := (List.ne_of_not_mem_cons h).symm
    simp only [List.foldl_cons, hc, if_false]
    rw [ih (List.not_mem_of_not_mem_cons h), List.append_assoc]
    rfl

/-- The recursions go over this form, which has no special case for the last line (`splitNL_nl`, `newlines`,
`length_joinNL` all look at `l ++ [10]`). -/
theorem joinNL_nl : ∀ (ls : List (List Nat)), ls ≠ [] → joinNL ls ++ [10] = ls.flatMap (· ++ [10])
  | [], h => absurd rfl h
  | [a], _ => by
    rw [List.flatMap_cons, List.flatMap_nil, List.append_nil]
    rfl
  | a :: b :: t, _ => by
    rw [List.flatMap_cons, ← joinNL_nl (b :: t) (List.cons_ne_nil _ _), joinNL]
    simp only [List.append_assoc, List.cons_append, List.nil_append]

theorem splitNL_nl (l : List Nat) : splitNL l = ((l ++ [10]).foldl nlStep ([], [])).1 := by
  rw [splitNL_eq, List.foldl_append]
  rfl

theorem foldl_lines : ∀ (ls closed : List (List Nat)), (∀ ln ∈ ls, 10 ∉ ln) →
    (ls.flatMap (· ++ [10])).foldl nlStep (closed, []) = (closed ++ ls, [])
  | [], closed, _ => by
    rw [List.append_nil]
    rfl
  | a :: t, closed, hfree => by
    rw [List.forall_mem_cons] at hfree
    rw [List.flatMap_cons, List.foldl_append, List.foldl_append, splitNL_fold a hfree.1]
    -- the newline closes the line `a`
    have ih := foldl_lines t (closed ++ [[] ++ a]) hfree.2
    rw [List.nil_append, List.append_assoc] at ih
    exact ih

theorem splitNL_join (ls : List (List Nat)) (hne : ls ≠ []) (hfree : ∀ ln ∈ ls, 10 ∉ ln) :
    splitNL (joinNL ls) = ls := by
  rw [splitNL_nl, joinNL_nl ls hne, foldl_lines ls [] hfree]
  rfl

theorem length_foldl_nlStep (l : List Nat) : ∀ acc : List (List Nat) × List Nat,
    (l.foldl nlStep acc).1.length = acc.1.length + countNL l := by
  induction l with
  | nil => exact fun _ => rfl
  | cons c t ih =>
    intro acc
    rw [List.foldl_cons, ih, countNL, countNL, List.filter_cons]
    by_cases hc : c = 10
    · simp only [nlStep, hc, if_true, decide_true, List.length_append, List.length_cons, List.length_nil]
      omega
    · simp only [nlStep, hc, if_false, decide_false, Bool.false_eq_true]

theorem countNL_join (ls : List (List Nat)) (hne : ls ≠ []) (hfree : ∀ ln ∈ ls, 10 ∉ ln) :
    countNL (joinNL ls) = ls.length - 1 := by
  have hlen : (splitNL (joinNL ls)).length = ls.length := congrArg List.length (splitNL_join ls hne hfree)
  rw [splitNL_eq, List.length_append, length_foldl_nlStep] at hlen
  simp only [List.length_nil, List.length_cons] at hlen
  omega

theorem length_joinNL (ls : List (List Nat)) (hne : ls ≠ []) :
    (joinNL ls).length + 1 = ((ls.map List.length).map (· + 1)).sum := by
  have hlen : (joinNL ls ++ [10]).length = (ls.flatMap (· ++ [10])).length := congrArg List.length (joinNL_nl ls hne)
  rw [List.length_append, List.length_flatMap] at hlen
  simp only [List.length_append, List.length_cons, List.length_nil, Nat.zero_add] at hlen
  rw [hlen, List.map_map]
  rfl

/-- rows contributed by lines of the given lengths, the first being line number `i` of the buffer -/
def spanRows (w p : Nat) : Nat → List Nat → Nat
  | _, [] => 0
  | i, n :: t => ((n + p) / w + (if i ≠ 0 then 1 else 0)) + spanRows w p (i + 1) t

theorem spanRows_succ (w indent : Nat) : ∀ (ls : List (List Nat)) (i : Nat),
    spanRows w indent (i + 1) (ls.map List.length) = rowsOfLines w indent ls
  | [], _ => rfl
  | ln :: t, i => by
    rw [List.map_cons, spanRows, spanRows_succ w indent t (i + 1), if_pos (Nat.add_one_ne_zero i), rowsOfLines,
      blockRows]

/-- counted from line 0 the first row (the prompt's) is left out: one short of `rowsOfLines` as soon as there is a line -/
theorem spanRows_zero (w indent : Nat) (ls : List (List Nat)) :
    spanRows w indent 0 (ls.map List.length) + (if ls.length ≠ 0 then 1 else 0) = rowsOfLines w indent ls := by
  cases ls with
  | nil => rfl
  | cons a t =>
    simp only [List.map_cons, spanRows, spanRows_succ, rowsOfLines, blockRows, List.length_cons,
      if_pos (Nat.add_one_ne_zero t.length), if_neg (Ne.irrefl (a := 0))]
    omega

/-- the last of the lines `a :: rest` is `rest.getLastD a` -/
theorem rowsOfLines_dropLast (w indent : Nat) : ∀ (rest : List (List Nat)) (a : List Nat), rest ≠ [] →
    rowsOfLines w indent rest = rowsOfLines w indent rest.dropLast + blockRows w indent (rest.getLastD a)
  | [], _, h => absurd rfl h
  | [b], _, _ => (Nat.zero_add _).symm
  | b :: c :: tl, a, _ => by
    rw [rowsOfLines, List.dropLast_cons_cons, List.getLastD_cons,
      rowsOfLines_dropLast w indent (c :: tl) b (List.cons_ne_nil _ _), rowsOfLines]
    omega

theorem cursorRow_lt (w indent o : Nat) : ∀ (ls : List (List Nat)) (k : Nat), k < ls.length →
    o ≤ (ls.getD k []).length → rowsOfLines w indent (ls.take k) + (o + indent) / w < rowsOfLines w indent ls
  | [], _, hk, _ => absurd hk (Nat.not_lt_zero _)
  | a :: t, 0, _, ho => by
    have hdiv : (o + indent) / w ≤ (a.length + indent) / w := Nat.div_le_div_right (Nat.add_le_add_right ho _)
    simp only [List.take_zero, rowsOfLines, blockRows]
    omega
  | a :: t, k + 1, hk, ho => by
    have ih := cursorRow_lt w indent o t k (Nat.lt_of_succ_lt_succ hk) ho
    simp only [List.take_succ_cons, rowsOfLines]
    omega

/-- the step of the fold of `CoordinatesLine`: column, rows so far, number of the line -/
abbrev clStep (w indent : Nat) (acc : Nat × Nat × Nat) (ln : List Nat) : Nat × Nat × Nat :=
  ((lineSpan w ln acc.2.2 indent).1, acc.2.1 + (lineSpan w ln acc.2.2 indent).2, acc.2.2 + 1)

theorem coordsLine_eq (w : Nat) (l : List Nat) (indent : Nat) :
    coordsLine w l indent =
      (((splitNL l).foldl (clStep w indent) (0, 0, 0)).1, ((splitNL l).foldl (clStep w indent) (0, 0, 0)).2.1) := rfl

theorem foldl_clStep (w indent : Nat) : ∀ (rest : List (List Nat)) (a : List Nat) (x y i : Nat),
    (a :: rest).foldl (clStep w indent) (x, y, i) =
      (((rest.getLastD a).length + indent) % w,
        y + ((a.length + indent) / w + if i ≠ 0 then 1 else 0) + rowsOfLines w indent rest, i + rest.length + 1)
  | [], a, x, y, i => rfl
  | b :: t, a, x, y, i => by
    rw [List.foldl_cons, foldl_clStep w indent t b, List.getLastD_cons]
    simp only [lineSpan, rowsOfLines, blockRows, List.length_cons, if_pos (Nat.add_one_ne_zero i)]
    refine Prod.ext rfl (Prod.ext ?_ ?_) <;> dsimp only <;> omega

theorem coordsLine_join (w indent : Nat) (first : List Nat) (rest : List (List Nat))
    (hfree : ∀ ln ∈ first :: rest, 10 ∉ ln) : coordsLine w (joinNL (first :: rest)) indent =
      (((rest.getLastD first).length + indent) % w, (first.length + indent) / w + rowsOfLines w indent rest) := by
  rw [coordsLine_eq, splitNL_join _ (List.cons_ne_nil _ _) hfree, foldl_clStep]
  simp only [if_neg (Ne.irrefl (a := 0)), Nat.zero_add, Nat.add_zero]

/-- positions of the ends of lines of the given lengths, the first starting at `b` -/
def ends : Nat → List Nat → List Nat
  | _, [] => []
  | b, n :: t => (b + n) :: ends (b + n + 1) t

/-- the positions, counted from `s`, of the newlines of `l` -/
def nlsAt (s : Nat) (l : List Nat) : List Nat :=
  ((l.zipIdx s).filter (fun (p : Nat × Nat) => p.1 = 10)).map (fun (p : Nat × Nat) => p.2)

theorem newlines_eq (l : List Nat) : newlines l = nlsAt 0 (l ++ [10]) := rfl

theorem nlsAt_line (a c : List Nat) (s : Nat) (h : 10 ∉ a) :
    nlsAt s (a ++ [10] ++ c) = (s + a.length) :: nlsAt (s + a.length + 1) c := by
  have hf : (a.zipIdx s).filter (fun (p : Nat × Nat) => p.1 = 10) = [] := by
    rw [List.filter_eq_nil_iff]
    intro p hp e
    exact h (of_decide_eq_true e ▸ List.fst_mem_of_mem_zipIdx hp)
  unfold nlsAt
  rw [List.append_assoc, List.zipIdx_append, List.filter_append, hf]
  rfl

theorem nlsAt_lines : ∀ (ls : List (List Nat)) (s : Nat), (∀ ln ∈ ls, 10 ∉ ln) →
    nlsAt s (ls.flatMap (· ++ [10])) = ends s (ls.map List.length)
  | [], _, _ => rfl
  | a :: t, s, hfree => by
    rw [List.forall_mem_cons] at hfree
    rw [List.flatMap_cons, nlsAt_line a _ s hfree.1, nlsAt_lines t _ hfree.2]
    rfl

/-- The walk of `CoordinatesCursor` from line number `idx`, which starts at `bpos`: `pos` is at offset `o` of the line
`ln`, after the lines `pre`; `post` are the lengths of the lines the walk does not reach. -/
theorem coordsCursor_go (w indent : Nat) {l ln post : List Nat} {pos o : Nat} (ho : o ≤ ln.length) :
    ∀ (pre : List (List Nat)) (idx bpos usedY : Nat), pos = bpos + ((pre.map List.length).map (· + 1)).sum + o →
    bpos + ((pre.map List.length).map (· + 1)).sum + ln.length ≤ l.length →
    coordsCursor.go w l pos indent (ends bpos (pre.map List.length ++ ln.length :: post)) idx bpos usedY =
      ((o + indent) % w, usedY + rowsOfLines w indent pre + (o + indent) / w + if idx ≠ 0 then 1 else 0)
  | [], idx, bpos, usedY, hpos, hlen => by
    simp only [List.map_nil, List.sum_nil, Nat.add_zero] at hpos hlen
    simp only [List.map_nil, List.nil_append, ends, coordsCursor.go]
    -- the end of `ln` is not before `pos`: the cursor line
    rw [if_neg (by omega)]
    have hl : ((l.drop bpos).take (pos - bpos)).length = o := by
      rw [List.length_take, List.length_drop]
      omega
    simp only [lineSpan, hl, rowsOfLines]
    refine Prod.ext rfl ?_
    dsimp only
    omega
  | m :: pre, idx, bpos, usedY, hpos, hlen => by
    simp only [List.map_cons, List.sum_cons] at hpos hlen
    simp only [List.map_cons, List.cons_append, ends, coordsCursor.go]
    -- the end of `m` is before `pos`: a line passed
    rw [if_pos (by omega)]
    have hl : ((l.drop bpos).take (bpos + m.length - bpos)).length = m.length := by
      rw [List.length_take, List.length_drop]
      omega
    rw [coordsCursor_go w indent ho pre (idx + 1) (bpos + m.length + 1) _ (by omega) (by omega)]
    simp only [lineSpan, hl, rowsOfLines, blockRows, if_pos (Nat.add_one_ne_zero idx)]
    refine Prod.ext rfl ?_
    dsimp only
    omega

/-- the position is offset `o` of line `k` -/
theorem coordsCursor_lines (w indent : Nat) (ls : List (List Nat)) (k o : Nat) (hfree : ∀ ln ∈ ls, 10 ∉ ln)
    (hk : k < ls.length) (ho : o ≤ (ls.getD k []).length) :
    coordsCursor w (joinNL ls) ((((ls.take k).map List.length).map (· + 1)).sum + o) indent =
      ((o + indent) % w, rowsOfLines w indent (ls.take k) + (o + indent) / w) := by
  have hne : ls ≠ [] := List.ne_nil_of_length_pos (Nat.zero_lt_of_lt hk)
  have hls : ls.map List.length =
      (ls.take k).map List.length ++ (ls.getD k []).length :: (ls.drop (k + 1)).map List.length := by
    rw [← List.map_cons, ← List.map_append, ← List.getElem_eq_getD (h := hk), ← List.drop_eq_getElem_cons hk,
      List.take_append_drop]
  have hlen := length_joinNL ls hne
  rw [hls, List.map_append, List.sum_append, List.map_cons, List.sum_cons] at hlen
  unfold coordsCursor
  rw [newlines_eq, joinNL_nl ls hne, nlsAt_lines ls 0 hfree, hls,
    coordsCursor_go w indent ho (ls.take k) 0 0 0 (by omega) (by omega)]
  simp only [if_neg (Ne.irrefl (a := 0)), Nat.zero_add, Nat.add_zero]

/-- the rows as `CoordinatesCursor` counts them (`spanRows`): the form the many-line statement of C04 has -/
theorem coordsCursor_join (w indent : Nat) (ls : List (List Nat)) (k o : Nat) (hne : ls ≠ [])
    (hfree : ∀ ln ∈ ls, 10 ∉ ln) (hk : k < ls.length) (ho : o ≤ (ls.getD k []).length) :
    coordsCursor w (joinNL ls) ((((ls.take k).map List.length).map (· + 1)).sum + o) indent =
      ((o + indent) % w,
        spanRows w indent 0 ((ls.take k).map List.length) + ((o + indent) / w + (if k ≠ 0 then 1 else 0))) := by
  have hz := spanRows_zero w indent (ls.take k)
  rw [List.length_take, Nat.min_eq_left (Nat.le_of_lt hk)] at hz
  rw [coordsCursor_lines w indent ls k o hfree hk ho, ← hz]
  refine Prod.ext rfl ?_
  dsimp only
  omega

end RLV.Disp
