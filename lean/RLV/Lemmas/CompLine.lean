import RLV.Model.CompLine
import RLV.Lemmas.Line
/-! The two lines of the completion engine (`Model/CompLine`): from a sane state `Select` is an equation —
whatever was shown before, the state becomes `showing s v`, which has the real pair and the prefix of `s`.
Cycling, cancelling and keeping a candidate are read off that state. -/
namespace RLV.CompLine
open RLV.Core RLV.Comp

/-- the completion starts with the cursor inside the line and the prefix before it; the state is arbitrary otherwise
(a candidate may already be shown, the virtual pair may still be the real pair or hold anything) -/
structure Good (s : St) : Prop where
  h0 : 0 ≤ s.cur
  h1 : s.cur ≤ len s.line
  hp : (s.pfx.length : Int) ≤ s.cur

/-- a candidate the engine inserts: no NUL rune, and it passes the length guard of `insertCandidate` (rune counts) -/
structure OKv (s : St) (v : List Nat) : Prop where
  hz : ∀ c ∈ v, c ≠ 0
  hg : ¬ v.length < s.pfx.length

theorem Good.congr {s s' : St} (g : Good s) (hl : s'.line = s.line) (hc : s'.cur = s.cur) (hp : s'.pfx = s.pfx) :
    Good s' :=
  ⟨hc ▸ g.h0, hc ▸ hl ▸ g.h1, hc ▸ hp ▸ g.hp⟩

theorem OKv.congr {s s' : St} {v : List Nat} (ok : OKv s v) (hp : s'.pfx = s.pfx) : OKv s' v :=
  ⟨ok.hz, hp ▸ ok.hg⟩

/-- the line that shows candidate `v` in place of the prefix -/
def shown (s : St) (v : List Nat) : Line :=
  s.line.take (s.cur - s.pfx.length).toNat ++ v ++ s.line.drop s.cur.toNat

/-- the cursor after `v` in `shown s v` -/
def shownCur (s : St) (v : List Nat) : Int := s.cur - s.pfx.length + v.length

theorem clamp_id (l : Line) (p : Int) (h0 : 0 ≤ p) (h1 : p ≤ len l) : clamp l p = p := by
  rw [clamp, if_neg (by omega), if_neg (by omega)]

theorem insertCandidate_spec (l : Line) (cpos : Int) (pfx value : List Nat)
    (h1 : cpos ≤ len l) (hp : (pfx.length : Int) ≤ cpos)
    (hz : ∀ c ∈ value, c ≠ 0) (hg : ¬ value.length < pfx.length) :
    insertCandidate l cpos pfx value =
      .ok (l.take (cpos - pfx.length).toNat ++ value ++ l.drop cpos.toNat, cpos - pfx.length + value.length) := by
  -- `q`: the length of the text before the prefix, where the cut begins and the value is inserted
  generalize hq : cpos - (pfx.length : Int) = q
  have htl : (l.take q.toNat).length = q.toNat := by
    rw [List.length_take]
    unfold len at h1
    omega
  have hcut : cut l q (q + pfx.length) = .ok (l.take q.toNat ++ l.drop cpos.toNat) := by
    rw [cut_spec l q (q + pfx.length) (by omega) (by omega) (by omega), show q + pfx.length = cpos by omega]
  have hle : q ≤ len (l.take q.toNat ++ l.drop cpos.toNat) := by
    rw [len, List.length_append, htl]
    omega
  have hins := insert_spec (l.take q.toNat ++ l.drop cpos.toNat) q value hz (by omega) hle
  rw [List.take_left' htl, List.drop_left' htl] at hins
  -- neither clamp moves `q`: that of `Move(-len(prefix))` (`c1`, `c2`), that of `InsertAt` on the cut line (`c3`)
  have c1 : ¬ q < 0 := by omega
  have c2 : ¬ q > len l := by omega
  have c3 : ¬ q > len (l.take q.toNat ++ l.drop cpos.toNat) := by omega
  simp only [insertCandidate, hg, hq, c1, c2, hcut, c3, hins, if_false, ok_bind, pure_eq]

def showing (s : St) (v : List Nat) : St :=
  { s with sel := v, cline := shown s v, ccur := shownCur s v, alias := false }

theorem showing_good {s : St} (g : Good s) (v : List Nat) : Good (showing s v) := g.congr rfl rfl rfl

theorem insertCand_spec (s : St) (v : List Nat) (g : Good s) (ok : OKv s v) :
    insertCand s v = .ok (showing s v) := by
  simp only [insertCand, ok.hg, if_false, clamp_id s.line s.cur g.h0 g.h1,
    insertCandidate_spec s.line s.cur s.pfx v g.h1 g.hp ok.hz ok.hg, ok_bind, pure_eq]
  rfl

theorem cancelCompleted_eq (s : St) (g : Good s) :
    cancelCompleted s =
      if s.alias then { s with sel := [] } else { s with cline := s.line, ccur := s.cur, sel := [] } := by
  simp only [cancelCompleted, clamp_id s.line s.cur g.h0 g.h1]

theorem select_spec (s : St) (v : List Nat) (g : Good s) (ok : OKv s v) : select s v = .ok (showing s v) := by
  unfold select
  split
  · -- what `cancelCompletedLine` leaves differs from `s` in the virtual pair and `sel`, which are overwritten
    rw [cancelCompleted_eq s g]
    split <;> exact insertCand_spec _ v (g.congr rfl rfl rfl) (ok.congr rfl)
  · exact insertCand_spec s v g ok

theorem selects_spec (s : St) (vs : List (List Nat)) (v : List Nat) (g : Good s)
    (ok : ∀ w ∈ vs ++ [v], OKv s w) : selects s (vs ++ [v]) = .ok (showing s v) := by
  induction vs generalizing s with
  | nil =>
    simp only [List.nil_append, selects, select_spec s v g (ok v (List.mem_append_right _ List.mem_cons_self)), ok_bind,
      pure_eq]
  | cons w ws ih =>
    simp only [List.cons_append, selects, select_spec s w g (ok w (List.mem_append_left _ List.mem_cons_self)), ok_bind]
    exact ih (showing s w) (showing_good g w) fun u hu => (ok u (List.mem_cons_of_mem w hu)).congr rfl

theorem shownCur_range (s : St) (v : List Nat) (g : Good s) :
    0 ≤ shownCur s v ∧ shownCur s v ≤ len (shown s v) := by
  have h1 : s.cur ≤ s.line.length := g.h1
  have hp := g.hp
  simp only [shownCur, shown, len, List.length_append, List.length_take, List.length_drop]
  omega

theorem visible_unselected (s : St) (g : Good s) (h : s.sel = []) : visible s = (s.line, s.cur) := by
  rw [visible, if_neg (not_not_intro h), clamp_id s.line s.cur g.h0 g.h1]

theorem visible_showing {s : St} {v : List Nat} (g : Good s) (hv : v ≠ []) :
    visible (showing s v) = (shown s v, shownCur s v) := by
  have hl := shownCur_range s v g
  simp only [visible, vline, vcur, showing, hv, ne_eq, not_false_eq_true, if_true, Bool.false_eq_true, if_false,
    clamp_id _ _ hl.1 hl.2]

theorem cancel_true (s : St) (g : Good s) : cancel s true = cancelCompleted s := by
  have hc := clamp_id s.line s.cur g.h0 g.h1
  by_cases ha : s.alias <;>
    simp only [cancel, cancelCompleted, ha, hc, Bool.not_true, Bool.false_eq_true, and_false, if_false, if_true]

theorem cancel_true_restores (s : St) (g : Good s) :
    (cancel s true).line = s.line ∧ (cancel s true).cur = s.cur ∧ visible (cancel s true) = (s.line, s.cur) := by
  rw [cancel_true s g, cancelCompleted_eq s g]
  split <;> exact ⟨rfl, rfl, visible_unselected _ (g.congr rfl rfl rfl) rfl⟩

theorem cancel_false_showing {s : St} {v : List Nat} (g : Good s) (hv : v ≠ []) :
    (cancel (showing s v) false).line = shown s v ∧ (cancel (showing s v) false).cur = shownCur s v ∧
      (cancel (showing s v) false).sel = [] := by
  have hl := shownCur_range s v g
  have hc := clamp_id _ _ hl.1 hl.2
  simp only [cancel, cancelCompleted, showing, hv, hc, Bool.not_false, and_true, Bool.false_eq_true, if_false]

end RLV.CompLine
