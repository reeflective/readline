import RLV.Model.Hist
import RLV.Lemmas.G
/-! The per-line undo histories (`St.lhs`) as a finite map: `getLH` reads it, `setLH` writes it, and `Reset`, `Save`,
`Undo`, `Redo` are described by what they write. Then C07: every buffer that `undo`/`redo` produce is the text of a
state saved earlier for some line. -/
namespace RLV.Hist
open RLV.Core

theorem lookup_filter_ne {α : Type} {k k' : Int} (hk : k' ≠ k) (l : List (Int × α)) :
    (l.filter (fun e => e.1 != k)).lookup k' = l.lookup k' := by
  induction l with
  | nil => rfl
  | cons e t ih =>
    by_cases he : e.1 = k
    · have hb : (k' == e.1) = false := beq_eq_false_iff_ne.mpr fun h => hk (h.trans he)
      rw [List.filter_cons_of_neg (by exact fun h => bne_iff_ne.mp h he), List.lookup_cons, hb, ih]
    · rw [List.filter_cons_of_pos (by exact bne_iff_ne.mpr he), List.lookup_cons, List.lookup_cons, ih]

theorem getLH_setLH (s : St) (k : Int) (h : LH) (k' : Int) :
    getLH (setLH s k h) k' = if k' = k then h else getLH s k' := by
  unfold getLH setLH
  by_cases c : k' = k
  · rw [if_pos c, c, List.lookup_cons_self]
    rfl
  · rw [if_neg c, List.lookup_cons, beq_eq_false_iff_ne.mpr c, lookup_filter_ne c]

theorem setLH_setLH (s : St) (k : Int) (h h' : LH) : setLH (setLH s k h) k h' = setLH s k h' := by
  simp only [setLH, List.filter_cons_of_neg, bne_self_eq_false, Bool.false_eq_true, not_false_eq_true,
    List.filter_filter, Bool.and_self]

theorem lineKey_setLH (s : St) (k : Int) (h : LH) : lineKey (setLH s k h) = lineKey s := rfl

theorem reset_eq (s : St) : reset s =
    { setLH s (lineKey s) { getLH s (lineKey s) with pos := if s.undoing then (getLH s (lineKey s)).pos else 0 } with
      skip := false, undoing := false } := by
  unfold reset
  cases s.undoing <;> rfl

theorem reset_src (s : St) : (reset s).src = s.src := by
  rw [reset_eq]
  rfl

theorem reset_setLH (s : St) (h : LH) : reset (setLH s (lineKey s) h) =
    { setLH s (lineKey s) { h with pos := if s.undoing then h.pos else 0 } with skip := false, undoing := false } := by
  rw [reset_eq, lineKey_setLH, getLH_setLH, if_pos rfl, setLH_setLH]
  rfl

/-- all texts in the undo histories (C07 is stated with it), shadowed entries of `lhs` too: not a function of `getLH` -/
def allLines (s : St) : List (List Nat) := s.lhs.flatMap (fun e => e.2.items.map (·.line))

theorem mem_allLines {s : St} {l : List Nat} :
    l ∈ allLines s ↔ ∃ e ∈ s.lhs, ∃ it ∈ e.2.items, it.line = l := by
  simp only [allLines, List.mem_flatMap, List.mem_map]

theorem getLH_items_sub {s : St} {k : Int} {it : UItem} (h : it ∈ (getLH s k).items) : it.line ∈ allLines s := by
  unfold getLH at h
  cases hl : s.lhs.lookup k with
  | none =>
    rw [hl] at h
    cases h
  | some v =>
    obtain ⟨l₁, l₂, e, _⟩ := List.lookup_eq_some_iff.mp hl
    have hm : (k, v) ∈ s.lhs := by
      rw [e]
      exact List.mem_append_right _ List.mem_cons_self
    rw [hl] at h
    exact mem_allLines.mpr ⟨(k, v), hm, it, h, rfl⟩

/-- for any `t` with the `lhs` of the write: `allLines` reads nothing else -/
theorem allLines_setLH {s t : St} {k : Int} {h : LH} (ht : t.lhs = (setLH s k h).lhs) {l : List Nat}
    (hl : l ∈ allLines t) :
    (∃ it ∈ h.items, it.line = l) ∨ l ∈ allLines s := by
  rcases mem_allLines.mp hl with ⟨e, he, it, hit, rfl⟩
  rw [ht] at he
  simp only [setLH, List.mem_cons, List.mem_filter] at he
  rcases he with rfl | ⟨he, _⟩
  · exact .inl ⟨it, hit, rfl⟩
  · exact .inr (mem_allLines.mpr ⟨e, he, it, hit, rfl⟩)

theorem saveAppend_spec {s s' : St} {k : Int} {h : LH} : saveAppend s k h = .ok s' →
    ∃ p l it, s' = reset (setLH s k { pos := p, items := l ++ [it] }) ∧ (∀ x ∈ l, x ∈ h.items) ∧ it.line = s.line := by
  fun_cases saveAppend s k h with
  | case1 => exact nofun                             -- the shown item is out of range
  | case2 p u _ =>
    fun_cases saveAppendAt s k h p u with
    | case1 | case2 | case3 => exact nofun           -- the reslice or the cursor check panics
    | case4 => exact fun hr => ⟨_, _, _, (Except.ok.inj hr).symm, fun _ => List.mem_of_mem_take, rfl⟩

/-- every way out of `Save` (skipped, same text as the last state, truncate and append) is one write at its key -/
theorem save_one_write {s s' : St} (hr : save s = .ok s') : ∃ h' : LH,
    s' = { setLH s (lineKey s) h' with skip := false, undoing := false } ∧
    (s.undoing = false → h'.pos = 0) ∧
    (∀ it ∈ h'.items, it ∈ (getLH s (lineKey s)).items ∨ it.line = s.line) ∧
    (s.skip = false → ∃ it, h'.items.getLast? = some it ∧ it.line = s.line) := by
  have rewound : ∀ h : LH, s.undoing = false → (if s.undoing then h.pos else 0) = 0 :=
    fun _ hu => by rw [hu, if_neg Bool.false_ne_true]
  unfold save at hr
  by_cases hskip : s.skip = true
  · rw [if_pos hskip] at hr
    cases hr
    exact ⟨_, reset_eq s, rewound _, fun _ => Or.inl, fun h => absurd (h.symm.trans hskip) Bool.false_ne_true⟩
  · rw [if_neg hskip] at hr
    obtain ⟨p, l, it, rfl, hl, hit⟩ : ∃ p l it, s' = reset (setLH s (lineKey s) { pos := p, items := l ++ [it] }) ∧
        (∀ x ∈ l, x ∈ (getLH s (lineKey s)).items) ∧ it.line = s.line := by
      dsimp only at hr
      split at hr
      next it _ =>
        by_cases e : it.line = s.line
        · -- same text as the last saved state: only its cursor is brought up to date
          rw [if_pos e] at hr
          exact ⟨_, _, _, (Except.ok.inj hr).symm, fun _ h => List.dropLast_subset _ h, e⟩
        · rw [if_neg e] at hr
          exact saveAppend_spec hr
      next => exact saveAppend_spec hr
    refine ⟨_, reset_setLH s _, rewound _, fun x hx => ?_, fun _ => ⟨it, List.getLast?_concat, hit⟩⟩
    rcases List.mem_append.mp hx with h1 | h1
    · exact Or.inl (hl x h1)
    · rw [List.mem_singleton.mp h1]
      exact Or.inr hit

theorem save_spec (s s' : St) (hr : save s = .ok s') :
    s'.line = s.line ∧ ∀ l ∈ allLines s', l = s.line ∨ l ∈ allLines s := by
  obtain ⟨h', rfl, _, hh, _⟩ := save_one_write hr
  refine ⟨rfl, fun l hl => ?_⟩
  rcases allLines_setLH rfl hl with ⟨it, hit, rfl⟩ | h
  · exact (hh it hit).symm.imp_right getLH_items_sub
  · exact .inr h

theorem undoFind_spec {fuel : Nat} {h h' : LH} {line : List Nat} {u : Option UItem}
    (hr : undoFind fuel h line = .ok (h', u)) : h'.items = h.items ∧ ∀ v, u = some v → v ∈ h'.items := by
  fun_induction undoFind fuel h line
  case case1 | case2 =>                                 -- out of fuel, or past the oldest state: nothing to show
    cases hr
    exact ⟨rfl, nofun⟩
  case case3 | case4 => cases hr                        -- the index is out of range
  case case5 w hw _ =>                                  -- the state `w` at the index differs from the buffer
    cases hr
    refine ⟨rfl, fun v hv => ?_⟩
    cases hv
    exact List.mem_of_getElem? hw
  case case6 ih => exact ih hr

/-- `hl`, `hi`, `hline`: what every way out of `undo` and of `redo` gives -/
theorem undo_redo_spec {s s' : St} {k : Int} {h' : LH} (hl : s'.lhs = (setLH s k h').lhs)
    (hi : h'.items = (getLH s k).items) (hline : s'.line = s.line ∨ ∃ u ∈ h'.items, s'.line = u.line) :
    (s'.line = s.line ∨ s'.line ∈ allLines s) ∧ ∀ l ∈ allLines s', l ∈ allLines s := by
  have sub : ∀ it ∈ h'.items, it.line ∈ allLines s := by
    intro it hit
    rw [hi] at hit
    exact getLH_items_sub hit
  constructor
  · rcases hline with e | ⟨u, hu, e⟩
    · exact Or.inl e
    · rw [e]
      exact Or.inr (sub u hu)
  · intro l hl'
    rcases allLines_setLH hl hl' with ⟨it, hit, rfl⟩ | h
    · exact sub it hit
    · exact h

theorem undo_spec (s s' : St) (hr : undo s = .ok s') :
    (s'.line = s.line ∨ s'.line ∈ allLines s) ∧ ∀ l ∈ allLines s', l ∈ allLines s := by
  revert hr
  fun_cases undo s
  case case1 =>                                      -- no saved state: the buffer stays
    intro hr
    cases hr
    exact undo_redo_spec (k := lineKey s) rfl rfl (Or.inl rfl)
  case case2 =>
    intro hr
    obtain ⟨⟨h', u⟩, hfind, hr⟩ := bind_ok hr
    obtain ⟨hi, hu⟩ := undoFind_spec hfind
    cases u with
    | none =>
      cases hr
      exact undo_redo_spec rfl hi (Or.inl rfl)
    | some v =>
      cases hr
      exact undo_redo_spec rfl hi (Or.inr ⟨v, hu v rfl, rfl⟩)

theorem redo_spec (s s' : St) (hr : redo s = .ok s') :
    (s'.line = s.line ∨ s'.line ∈ allLines s) ∧ ∀ l ∈ allLines s', l ∈ allLines s := by
  revert hr
  fun_cases redo s
  case case1 | case2 =>                              -- no saved state, or none undone: the buffer stays
    intro hr
    cases hr
    exact undo_redo_spec (k := lineKey s) rfl rfl (Or.inl rfl)
  case case3 => exact nofun                          -- the index is out of range
  case case4 rest _ =>
    -- `rest` is what is left of the `do` block: the state at the index is read and shown
    intro hr
    unfold rest at hr
    split at hr
    next u hu =>
      cases hr
      exact undo_redo_spec (k := lineKey s) rfl rfl (Or.inr ⟨u, List.mem_of_getElem? hu, rfl⟩)
    next => cases hr

end RLV.Hist
