import RLV.Lemmas.Conds
import RLV.Lemmas.G
/-! C13 — inputrc directives apply iff all enclosing conditions hold (property theorems).

The model is `Inputrc.execTok` (what `Parser.next` does with a scanned token: `doBind`, `doSet`, `do`,
inputrc/parse.go), for **any** handler `H`, any parser options `o` (mode, term, application name, strict, …)
and any treatment of included files; `runToks` (Lemmas/Conds) runs it along a token list as the loop of
`Inputrc.parseLines` does, without the scanner and the error list — no theorem relates the two. A *program* is a
well-nested tree (`Blk`): directives, and `$if test … $else … $endif` blocks.
`effect t (km, h)` is what directive `t` does when it takes effect: it acts on the handler state `h`
with the current keymap `km` (a bind is recorded in `km`; `set keymap k` selects `k`).

The tree this model is compared with on every run (whole files through the real `Parser`,
`rlv-diff -model parse`) is the pinned one, whose `$if` pushes its test without looking at the
enclosing block. So the full statement is false of it — `full_statement_refuted` — and is a
KNOWN FINDING (DESIGN.md); what is proved is what the parser does for every program
(`fires_iff_innermost_active`) and the property itself on every program in which no block sits inside an
inactive block (`fires_iff_all_enclosing_active_partial`). -/
namespace RLV.Props.C13
open RLV RLV.Inputrc RLV.Core

variable {σ : Type} (H : Handler σ) (o : Opts) (nested : Option (List Nat → σ → G σ))

/-- Directives in inactive blocks have no effect at all: whatever the token (bind, macro, set,
`set keymap`, `$include`, unknown construct), with an inactive innermost block the parser state, the
handler state and the error list are left exactly as they were. -/
theorem inactive_directive_has_no_effect (p : PSt) (h : σ) (t : Tk)
    (hc : t.isCond = false) (hi : p.top = false) :
    execTok H o nested p h t = .ok (p, h, none) :=
  execTok_inactive H o nested p h t hc hi

/-- What the parser's `execTok` does along the tokens of EVERY well-nested program (`runToks`), from any keymap
and handler state: a directive takes effect iff the condition of its innermost enclosing block holds
(`specInL` evaluates the tree structurally with exactly that rule). -/
theorem fires_iff_innermost_active (bs : List Blk) (hw : wfL bs = true) (km : Str) (h : σ) :
    runToks H o nested (flatL bs) (fresh km) h =
      match specInL H o nested true bs (km, h) with
      | .error e => .error e
      | .ok s => .ok (fresh s.1, s.2) :=
  run_blks H o nested bs hw true [] [] (km, h)

/-- The property (a directive takes effect iff EVERY enclosing block is active, `specL`), proved
for every program in which no `$if` block sits inside an inactive block — the carve-out of the
known finding. -/
theorem fires_iff_all_enclosing_active_partial (bs : List Blk) (hw : wfL bs = true)
    (hflat : flatOKL o true bs = true) (km : Str) (h : σ) :
    runToks H o nested (flatL bs) (fresh km) h =
      match specL H o nested true bs (km, h) with
      | .error e => .error e
      | .ok s => .ok (fresh s.1, s.2) := by
  rw [fires_iff_innermost_active H o nested bs hw km h, specIn_eq_spec_blks H o nested bs true (km, h) hflat]

/-- A binding that takes effect is recorded in the keymap currently selected, with the key sequence,
the action and the function-versus-macro distinction the scanner delivered. -/
theorem bind_recorded_in_selected_keymap (km seq act : Str) (h : σ) (mac : Bool) :
    effect H o nested (seq, act, if mac then Tok.bindMacro else Tok.bind) (km, h) =
      .ok (km, (H.bind h km seq act mac).1) := by
  cases mac <;> rfl

/-- `set keymap k` that takes effect selects `k` for what follows and does nothing else
(non-strict parsing, or `k` one of the documented keymap names). -/
theorem set_keymap_selects (km k : Str) (h : σ) (hk : o.strict = false ∨ k ∈ validKeymaps) :
    effect H o nested (str "keymap", k, Tok.set) (km, h) = .ok (k, h) := by
  have hstrict : ¬ (o.strict = true ∧ ¬ k ∈ validKeymaps) := fun ⟨hs, hv⟩ =>
    hk.elim (fun h1 => Bool.false_ne_true (h1.symm.trans hs)) hv
  -- the fresh parser is active (`top_fresh`), the name is `keymap`, the strictness test passes
  simp only [effect, execTok, doSet, fresh, top_fresh, Bool.not_true, Bool.false_eq_true, if_false, if_true, hstrict,
    pure_eq]

def recorded {α : Type} (g : G (α × Cfg)) (cs : List Call) : Bool :=
  match g with
  | .ok r => decide (r.2.calls = cs)
  | .error _ => false

/-- The full statement is false of the pinned parser (known finding): with mode `emacs`, the bind
inside `$if mode=vi / $if mode=emacs` fires although its outer block is inactive, while the
property's evaluator fires nothing. -/
theorem full_statement_refuted :
    let o : Opts := { mode := str "emacs" }
    let prog : List Blk := [.ite (str "mode=vi") [.ite (str "mode=emacs") [.tok (str "x", str "LEAK", .bindMacro)] []] []]
    recorded (runToks cfgHandler o none (flatL prog) (fresh (str "emacs")) {})
        [.bind (str "emacs") (str "x") (str "LEAK") true] = true ∧
    recorded (specL cfgHandler o none true prog (str "emacs", {})) [] = true := by
  decide

-- non-vacuity of the carve-out: a two-level program inside it (all enclosing blocks active)
example : flatOKL { mode := str "emacs" } true
    [.ite (str "mode=emacs")
      [.ite (str "term=rxvt") [.tok (str "a", str "b", .bind)] [.tok (str "keymap", str "vi", .set)]] []] = true ∧
  wfL [.ite (str "mode=emacs")
      [.ite (str "term=rxvt") [.tok (str "a", str "b", .bind)] [.tok (str "keymap", str "vi", .set)]] []] = true := by
  decide

end RLV.Props.C13
