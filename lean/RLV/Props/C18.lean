import RLV.Lemmas.Macro
import RLV.Lemmas.Esc
import RLV.Lemmas.DispatchKeys
/-! C18 — Replaying a keyboard macro equals retyping its keys.

`Macro.recordSession` is the model of a recording as the main loop of `Readline` drives the macro
engine (internal/macro/engine.go: `StartRecord`, one `RecordKeys` per loop iteration with the keys
that matched the last command, `StopRecord`), `Macro.runLast` of `RunLastMacro` / `RunMacro`
(Emacs `call-last-kbd-macro`, Vi `@<register>`): the stored notation is unescaped and FED to the
key stack. `dispatchKeys` is the dispatcher of C03. The chain proved here:

  recorded keys  --EscapeMacro-->  stored notation  --Unescape-->  fed keys = recorded keys
  fed keys  --dispatchKeys-->  the same binds, reads and matches as the same keys typed

Known limits of the code (KNOWN FINDINGS, not claimed): a fed key above 0xFF is cut to one byte by
`PopKey`, and a key in 0x80–0xFF is delivered as that byte rather than as its UTF-8 encoding; in the
Vi keymaps an ESC followed by further keys of the macro is read as a prefix (a typed lone ESC is
recognised by timing only); keys fed by a key of the macro run after the rest of the macro. -/
namespace RLV.Props.C18
open RLV RLV.Macro

/-- the keys recorded: those of every command run while recording, in order -/
theorem recording_collects_the_keys (startKeys : List Nat) (cmds : List (List Nat))
    (hs : startKeys ≠ []) (hne : cmds.flatten ≠ []) :
    (recordSession {} startKeys cmds).stored = some (Esc.escape true cmds.flatten) := by
  -- the first call hands over the keys of the start command itself: skipped, the `started` latch consumed
  have h0 : recordKeys (startRecord {}) startKeys = ⟨true, false, [], none⟩ := by
    cases startKeys with
    | nil => exact absurd rfl hs
    | cons a t => rfl
  unfold recordSession stopRecord
  rw [h0, foldl_recordKeys]
  simp only [List.nil_append, List.isEmpty_iff, hne, if_false, List.append_nil]

/-- Replay feeds exactly the recorded keys: for every key script (codes below 256 and printable
runes) recorded between the start and end commands, `RunLastMacro` / `RunMacro` feed the same
keys, in the same order — whatever they are: quotes, backslashes, control keys, ESC-prefixed
sequences, arrow keys. -/
theorem replay_feeds_the_recorded_keys (startKeys : List Nat) (cmds : List (List Nat))
    (hs : startKeys ≠ []) (hne : cmds.flatten ≠ [])
    (hd : ∀ c ∈ cmds.flatten, c < 256 ∨ Uni.isPrint c = true) :
    runLast (recordSession {} startKeys cmds) = cmds.flatten := by
  unfold runLast
  rw [recording_collects_the_keys startKeys cmds hs hne]
  exact Esc.unescape_escape true cmds.flatten hd

/-- Fed keys are dispatched like typed keys: with an empty type-ahead buffer, the dispatcher run on
keys `K` (bytes: `hlt`) in the macro queue selects the same bind, reports the same prefix state, reads and matches
the same keys as on `K` typed with nothing in the macro queue (`hmk`) — for every bind table — and leaves the unread
rest in the queue. -/
theorem fed_keys_dispatch_like_typed_keys (tbl : List (Seq × Bind)) (n : Nat) (e : Eng)
    (hmk : e.keys.mkeys = []) (hlt : ∀ k ∈ e.keys.buf, k < 256) :
    let typed := dispatchKeys tbl n e [] [] false
    let fed := dispatchKeys tbl n e.asFed [] [] false
    fed.1.active = typed.1.active ∧ fed.2.1 = typed.2.1 ∧ fed.2.2.1 = typed.2.2.1 ∧ fed.2.2.2 = typed.2.2.2 ∧
    fed.1.keys.mkeys = typed.1.keys.buf := by
  have hs : e.asFed.keys.stream = e.keys.stream := by
    simp only [Eng.asFed, Eng.asFedF, Keys.stream, hmk, List.nil_append, List.map_nil, List.append_nil]
    exact (List.map_congr_left fun k hk => Nat.mod_eq_of_lt (hlt k hk)).trans (List.map_id _)
  have hj := dispatch_read_le_pending tbl n e
  have hj' := dispatch_read_le_pending tbl n e.asFed
  rw [hs] at hj'
  -- both are `dispatch` on the same keys (`hs`); `popN` drops those read from the macro queue here, from the buffer
  -- there
  simp only [dispatchKeys_take, hs, Keys.popN_eq _ _ hj, Keys.popN_eq _ _ hj']
  exact ⟨rfl, rfl, rfl, rfl, rfl⟩

-- non-vacuity: recording `C-a`, `x`, `"` (one command each) after `C-x (`, then replay
example : runLast (recordSession {} [24, 40] [[1], [120], [34]]) = [1, 120, 34] :=
  replay_feeds_the_recorded_keys _ _ (by decide) (by decide) (by decide)

end RLV.Props.C18
