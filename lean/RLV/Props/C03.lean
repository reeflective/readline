import RLV.Lemmas.MatchTyped
/-! C03 — Key sequences run exactly the command they are bound to.

`tbl` is any list of (key bytes, bind); in the code it is a keymap in the normal form `matchBind` works on
(`Model/Keys.norm`: ConvertMeta, UTF-8, sorted), but no theorem here assumes the order. The last of several entries
with the same keys wins (`lastExact`).
`dispatchKeys` is the model of `(*Engine).dispatchKeys` (internal/keymap/dispatch.go), the function
`MatchMain` and `MatchLocal` both call; it is compared with the real one on every run (`rlv-diff
-model disp|local`). The engine may hold any stale `prefixed`/`active` bind from earlier dispatches (clause 3
assumes none remembered: `hp`), and any keys may follow in the buffer. -/
namespace RLV.Props.C03
open RLV

/-- an engine whose key buffer holds the typed keys `ks` (no macro keys pending) -/
def Typed (e : Eng) (ks : Seq) : Prop := e.keys.buf = ks ∧ e.keys.mkeys = []

/-- Clause 1 (exact): a sequence bound to a command (`hact`: the action is not empty) that no longer binding
extends runs exactly its binding, once its last key has arrived: the dispatch returns that bind, not as a prefix,
having consumed exactly the keys of the sequence and left what follows in the buffer (`hn`: fuel for all the
buffered keys). -/
theorem exact_runs_binding (tbl : List (Seq × Bind)) (s rest : Seq) (b : Bind) (e : Eng) (n : Nat)
    (hmem : (s, b) ∈ tbl) (hb : lastExact s tbl = b) (hact : b.action ≠ "") (hne : s ≠ [])
    (hnoext : hasProperExt s tbl = false) (ht : Typed e (s ++ rest)) (hn : (s ++ rest).length ≤ n) :
    dispatchKeys tbl n e [] [] false =
      ({ e with keys := { e.keys with buf := rest }, prefixed := Bind.none, active := b }, false, s, s) := by
  rw [dispatchKeys_eq tbl n e _ ht.1 ht.2 hn, dispatch_exact tbl s rest b hmem hb hact hne hnoext]
  rfl

/-- Clause 2 (proper prefix waits): while the keys typed so far are only a proper prefix of
bindings, no command is selected: the dispatch reports a prefix, returns the (stale) active bind
untouched, and hands back exactly the keys it read so that they are matched again with the next key. -/
theorem proper_prefix_waits (tbl : List (Seq × Bind)) (p : Seq) (e : Eng) (n : Nat) (hne : p ≠ [])
    (hall : ∀ i, 0 < i → i ≤ p.length → hasProperExt (p.take i) tbl = true)
    (ht : Typed e p) (hn : p.length ≤ n) :
    ∃ pf', dispatchKeys tbl n e [] [] false =
      ({ e with keys := { e.keys with buf := [] }, prefixed := pf', active := e.active }, true, p, p) := by
  obtain ⟨pf', h⟩ := dispatch_prefix_waits tbl p hne hall e.prefixed e.active
  refine ⟨pf', ?_⟩
  rw [dispatchKeys_eq tbl n e _ ht.1 ht.2 hn, h]
  rfl

/-- Clause 3 (no match runs nothing): a key that starts no binding selects no command — the bind
returned is the empty bind — and only that key is consumed. -/
theorem nomatch_runs_nothing (tbl : List (Seq × Bind)) (k : Nat) (rest : Seq) (e : Eng) (n : Nat)
    (h1 : (lastExact [k] tbl).action = "") (h2 : hasProperExt [k] tbl = false)
    (hp : e.prefixed = Bind.none) (ht : Typed e (k :: rest)) (hn : (k :: rest).length ≤ n) :
    dispatchKeys tbl n e [] [] false =
      ({ e with keys := { e.keys with buf := rest }, prefixed := Bind.none, active := Bind.none }, false, [k], []) := by
  rw [dispatchKeys_eq tbl n e _ ht.1 ht.2 hn, hp, dispatch_nomatch tbl k rest h1 h2]
  rfl

/-- Clause 4 (shorter binding after a dead end): a sequence that is bound and is a prefix of
longer bindings runs its own binding as soon as the next key `k` rules the longer ones out. -/
theorem shorter_binding_runs (tbl : List (Seq × Bind)) (s rest : Seq) (k : Nat) (b : Bind) (e : Eng) (n : Nat)
    (hne : s ≠ []) (hb : lastExact s tbl = b) (hact : b.action ≠ "")
    (hall : ∀ i, 0 < i → i ≤ s.length → hasProperExt (s.take i) tbl = true)
    (hdead1 : (lastExact (s ++ [k]) tbl).action = "") (hdead2 : hasProperExt (s ++ [k]) tbl = false)
    (ht : Typed e (s ++ k :: rest)) (hn : (s ++ k :: rest).length ≤ n) :
    dispatchKeys tbl n e [] [] false =
      ({ e with keys := { e.keys with buf := rest }, prefixed := Bind.none, active := b }, false, s ++ [k], s) := by
  rw [dispatchKeys_eq tbl n e _ ht.1 ht.2 hn, dispatch_shorter tbl s rest k b hne hb hact hall hdead1 hdead2]
  rfl

/-- No spin in the dispatcher (shared with C01): on a non-empty buffer a dispatch either consumes
at least one key or reports a prefix having consumed all of them. -/
theorem dispatch_consumes (tbl : List (Seq × Bind)) (ks : Seq) (e : Eng) (n : Nat) (hne : ks ≠ [])
    (ht : Typed e ks) (hn : ks.length ≤ n) :
    let r := dispatchKeys tbl n e [] [] false
    (r.2.1 = false → r.1.keys.buf.length < ks.length) ∧ (r.2.1 = true → r.1.keys.buf = []) := by
  rw [dispatchKeys_eq tbl n e _ ht.1 ht.2 hn]
  exact dispatch_progress tbl ks [] [] false e.prefixed e.active hne

/-- Clause 4 at full strength, in the LOCAL keymaps (menu-select, isearch, vi-opp, visual…), on typed keys (`Typed`)
and for a shorter binding that is not a lone ESC (`hesc`): the shorter binding runs and the key that ruled the longer
ones out is the next key of the stack (in the main keymaps it is dropped:
`key_ruling_out_longer_binds_is_dropped_in_main`). -/
theorem local_keymap_gives_the_ruling_out_key_back (tbl : List (Seq × Bind)) (s rest : Seq) (k : Nat) (b : Bind)
    (e : Eng) (isIsearch : Bool)
    (htbl : tbl.isEmpty = false) (hne : s ≠ []) (hb : lastExact s tbl = b) (hact : b.action ≠ "")
    (hall : ∀ i, 0 < i → i ≤ s.length → hasProperExt (s.take i) tbl = true)
    (hdead1 : (lastExact (s ++ [k]) tbl).action = "") (hdead2 : hasProperExt (s ++ [k]) tbl = false)
    (ht : Typed e (s ++ k :: rest)) (hesc : runesOfBytes s ≠ [0x1b]) :
    (matchLocal e tbl isIsearch).2.1 = b ∧ (matchLocal e tbl isIsearch).1.keys.buf = k :: rest ∧
      (matchLocal e tbl isIsearch).2.2.2 = false := by
  have hr := dispatch_shorter tbl s rest k b hne hb hact hall hdead1 hdead2 e.prefixed e.active
  rw [matchLocal_typed e isIsearch htbl ht.2 (ht.1 ▸ hr) rfl hne hesc]
  exact ⟨rfl, congrArg (· ++ rest) List.drop_left, rfl⟩

-- non-vacuity: a table with overlapping binds  a ↦ Z,  ab ↦ X,  abc ↦ Y  meets the hypotheses of
-- clause 1 for `abc`, clause 2 for `ab`, clause 3 for `q` and clause 4 for `ab` followed by `d`
def tbl3 : List (Seq × Bind) := [([97], ⟨"Z", false⟩), ([97, 98], ⟨"X", false⟩), ([97, 98, 99], ⟨"Y", false⟩)]
example : ([97, 98, 99], (⟨"Y", false⟩ : Bind)) ∈ tbl3 ∧ lastExact [97, 98, 99] tbl3 = ⟨"Y", false⟩ ∧
    hasProperExt [97, 98, 99] tbl3 = false := by decide
example : ∀ i, 0 < i → i ≤ 2 → hasProperExt (([97, 98] : Seq).take i) tbl3 = true := by
  intro i h1 h2
  obtain rfl | rfl : i = 1 ∨ i = 2 := by omega
  all_goals decide
example : (lastExact [113] tbl3).action = "" ∧ hasProperExt [113] tbl3 = false := by decide
example : lastExact [97, 98] tbl3 = ⟨"X", false⟩ ∧ (lastExact ([97, 98] ++ [100]) tbl3).action = "" ∧
    hasProperExt ([97, 98] ++ [100]) tbl3 = false := by decide

/-- The statement at full strength adds to clause 4: "… and the key that ruled the longer bindings out is
dispatched next". In the MAIN keymaps it is not: `matchMain` hands every key it read, that one included, to
`matchedKeys` (where `matchLocal` gives it back). Refuted on the model — table  j ↦ self-insert, jk ↦ X,
keys `j a`: self-insert runs for `j a`, the stack is empty afterwards, `a` never runs anything — and on the
code (known finding C03-key-after-shorter-binding-dropped: typing `jazz` with a bind on `jk` returns `jzz`). -/
theorem key_ruling_out_longer_binds_is_dropped_in_main :
    let e : Eng := { keys := { buf := [106, 97] },
                     mainTbl := [([106], ⟨"self-insert", false⟩), ([106, 107], ⟨"X", false⟩)],
                     registered := ["self-insert", "X"] }
    (matchMain e).2.1 = ⟨"self-insert", false⟩ ∧ (matchMain e).1.keys.buf = [] ∧
      (matchMain e).1.keys.matched = [106, 97] := by
  decide

-- non-vacuity of the local-keymap clause: table a ↦ Z, ab ↦ X, abc ↦ Y as a local keymap, keys a b d q:
-- X runs, and d is the next key of the stack
example : (matchLocal { keys := { buf := [97, 98, 100, 113] }, registered := ["X"] } tbl3 false).2.1 = ⟨"X", false⟩ ∧
    (matchLocal { keys := { buf := [97, 98, 100, 113] }, registered := ["X"] } tbl3 false).1.keys.buf = [100, 113] := by
  decide

end RLV.Props.C03
