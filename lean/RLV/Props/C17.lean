import RLV.Lemmas.Sel
import RLV.Model.ViOps
/-! C17 — Vi delete removes exactly what yank would copy.

`ViOps.deleteTo` / `yankTo` are the models of the active-selection branch of `viDeleteTo` / `viYankTo`
(vim.go) — the branch both operators reach in visual mode and, after the motion or text object of an
operator-pending command, through `RunPending` — and `deleteLine` / `yankLine` of their `dd` / `yy`
branch; `Sel.cut` / `Sel.pop` underneath are compared with the real `Selection.Cut` / `Pop` on every
run (`rlv-diff -model sel`, same state deleted and yanked).

The theorems quantify over EVERY state the operator can be handed: any buffer, any cursor, any
values of the selection's fields (mark, pending end, visual flags), any command having just run.
That subsumes every motion and text object of the property's list, with any count: whatever state
the motion leaves, delete and yank agree on it. -/
namespace RLV.Props.C17
open RLV RLV.Core RLV.Sel RLV.ViOps

/-- From the same state, the text the delete operator puts in the register is the text the yank
operator puts there; yank leaves the buffer unchanged; delete leaves it unchanged too (no more is then said of
the register) or minus a contiguous slice `[b, e)`, the rest untouched, which is exactly that text (an empty slice
leaves the register as it was). Neither ever panics. -/
theorem delete_removes_what_yank_copies (st : St) (activeCmd : String) :
    ∃ d y, deleteTo st activeCmd = .ok d ∧ yankTo st activeCmd = .ok y ∧
      d.reg = y.reg ∧ y.line = st.line ∧
      (d.line = st.line ∨
        ∃ b e : Int, 0 ≤ b ∧ b ≤ e ∧ e ≤ len st.line ∧
          d.line = st.line.take b.toNat ++ st.line.drop e.toNat ∧
          (d.reg = (st.line.drop b.toNat).take (e - b).toNat ∨ ((st.line.drop b.toNat).take (e - b).toNat = [] ∧ d.reg = st.reg))) := by
  obtain ⟨b, e, s', hr, hc, hp⟩ := cut_eq_pop st.line (adjust activeCmd st.sel) st.cur
  refine ⟨{ st with line := st.line.take b.toNat ++ st.line.drop e.toNat, sel := s',
                    reg := write st.reg (slice st.line b e) },
    { st with sel := reset st.sel, reg := write st.reg (slice st.line b e) }, ?_, ?_, rfl, rfl, ?_⟩
  · unfold deleteTo
    rw [hc]
    rfl
  · unfold yankTo
    rw [hp]
    rfl
  · rcases hr with ⟨rfl, rfl⟩ | ⟨h0, h1, h2⟩
    · -- "no selection": `(-1).toNat = 0`, the whole line is left
      exact Or.inl rfl
    · refine Or.inr ⟨b, e, h0, h1, h2, rfl, ?_⟩
      rw [slice_eq st.line b e h0 h1]
      cases slice st.line b e with
      | nil => exact Or.inr ⟨rfl, rfl⟩
      | cons => exact Or.inl rfl

/-- The doubled operators: `dd` and `yy` both return, what `dd` stores in the register is what `yy` stores
there, and `yy` leaves the buffer unchanged. (What `dd` removes from the buffer is not in this statement;
`Sel.cut_eq_pop` has it.) -/
theorem dd_removes_what_yy_copies (st : St) :
    ∃ d y, deleteLine st = .ok d ∧ yankLine st = .ok y ∧ d.reg = y.reg ∧ y.line = st.line := by
  obtain ⟨b, e, s', _, hc, hp⟩ := cut_eq_pop st.line (lineSel st) st.cur
  refine ⟨{ st with line := st.line.take b.toNat ++ st.line.drop e.toNat, sel := s',
                    reg := write st.reg (withNL (slice st.line b e)) },
    { st with sel := reset st.sel, reg := write st.reg (withNL (slice st.line b e)) }, ?_, ?_, rfl, rfl⟩
  · unfold deleteLine
    rw [hc]
    rfl
  · unfold yankLine
    rw [hp]
    rfl

-- non-vacuity: `dw` / `yw` on "ab cd" from the cursor at 0 with the mark pending at 0 and the cursor
-- moved to 3 by the motion: both store "ab ", delete leaves "cd"
example : (match deleteTo { line := [97, 98, 32, 99, 100], sel := { active := true, bpos := 0, epos := -1 }, cur := ⟨3, -1⟩ } "vi-forward-word",
                 yankTo { line := [97, 98, 32, 99, 100], sel := { active := true, bpos := 0, epos := -1 }, cur := ⟨3, -1⟩ } "vi-forward-word" with
    | .ok d, .ok y => d.reg == [97, 98, 32] && y.reg == [97, 98, 32] && d.line == [99, 100] && y.line == [97, 98, 32, 99, 100]
    | _, _ => false) = true := by decide

end RLV.Props.C17
