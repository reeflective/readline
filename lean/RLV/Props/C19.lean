import RLV.Lemmas.Esc
/-! C19 — Key-sequence notation round-trips (property theorems).

`Esc.escape false` / `Esc.escape true` are the models of `inputrc.Escape` / `inputrc.EscapeMacro`,
`Esc.unescape` of `inputrc.Unescape` (all three compared with the real functions on every run,
`rlv-diff -model esc|unesc`). Runes are natural numbers; the property quantifies over every
code below 256 and every printable rune (`Uni.isPrint`, the `unicode.IsPrint` table of the Go
toolchain in use, regenerated on every run). -/
namespace RLV.Props.C19
open RLV RLV.Esc

def InDomain (s : List Nat) : Prop := ∀ c ∈ s, c < 256 ∨ Uni.isPrint c = true

/-- Escaping a key sequence and unescaping it yields the original sequence — for every sequence,
of any length, of runes of the domain. -/
theorem unescape_escape (s : List Nat) (h : InDomain s) : unescape (escape false s) = s :=
  Esc.unescape_escape false s h

/-- The same for macro bodies (`EscapeMacro`). -/
theorem unescape_escapeMacro (s : List Nat) (h : InDomain s) : unescape (escape true s) = s :=
  Esc.unescape_escape true s h

/-- No escape image is re-read together with what follows it (the framing lemma the induction
rests on): whatever text `t` follows the image of `c`, unescaping yields `c` and then continues
on `t` alone. This is what rules out context-dependent failures that no per-rune test sees. -/
theorem image_is_framed (mac : Bool) (c n : Nat) (t : List Nat) (h : c < 256 ∨ Uni.isPrint c = true) :
    unescF (n + 1) (escape1 mac c ++ t) = c :: unescF n t :=
  Esc.frame mac c n t h

/-- The hexadecimal escapes consume all their digits: `\x41` reads back as `A`, alone and before more text —
not as `A1`, which is what an increment one too small in the `\xHH` case of `unescapeRunes` gives (the `3` and
`2` of `escStep`). -/
theorem hex_escape_reads_both_digits :
    unescape [0x5c, 0x78, 0x34, 0x31] = [0x41] ∧ unescape [0x5c, 0x78, 0x34, 0x31, 0x5a] = [0x41, 0x5a] := by
  decide

/-- The domain restriction is the property's own and is needed: a non-printable rune above 0xFF is
written `\x200b`, which reads back as three runes. -/
theorem outside_domain_witness : unescape (escape false [0x200b]) ≠ [0x200b] := by decide +kernel

-- non-vacuity: troublesome codes of the domain (FS followed by `M-x`; a meta quote; C1 controls; CJK)
example : InDomain [0x1c, 0x4d, 0x2d, 0x78, 0xa2, 0x9b, 0xff, 0x4e2d] := by
  unfold InDomain
  decide +kernel

end RLV.Props.C19
