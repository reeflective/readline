import RLV.Lemmas.HistWrite
/-! C08 — Accepted lines are recorded in history exactly once (property theorems).

`HistW.accept infer err maxE line srcs` is the model of `Sources.Accept(hold, infer, err)` followed
by `Sources.Write` (internal/history/sources.go) over the bound sources `srcs` — an association
list standing for the Go map, in ANY order; `maxE` is the limit derived from `history-size`
(`-1`: none). The accept commands call it (as observed in the pty sessions, not proved) as: accept-line,
accept-and-hold, multi-line accept: `infer = false, err = false`; operate-and-get-next,
accept-and-infer-next-history: `infer = true`; interrupt, end-of-file: `err = true`. Compared with the real
`history.Sources` on every run (`rlv-diff -model hwrite`), memory and file-backed sources mixed. -/
namespace RLV.Props.C08
open RLV RLV.HistW

/-- what "recorded exactly once" means for one source: one entry more, the line's text (as the
source stores it: a file source trims), everything before untouched -/
def RecordedOnce (before after : Src) (line : Str) : Prop :=
  after.kind = before.kind ∧
  after.entries = before.entries ++ [match before.kind with | .memory => line | .file => trim line]

/-- the source's most recent entry is the line (up to surrounding whitespace) -/
def LastIs (s : Src) (line : Str) : Prop :=
  ∃ last, s.entries.getLast? = some last ∧ last ≠ [] ∧ trim last = trim line

/-- the source takes no more: a limit of 0 takes nothing, a negative one is no limit -/
def Full (maxE : Int) (s : Src) : Prop := maxE = 0 ∨ (maxE > 0 ∧ (s.entries.length : Int) ≥ maxE)

-- `HistW.trim` unfolds to `Trim.trimP Uni.isSpace` by `rfl`
theorem trim_idem (l : Str) : trim (trim l) = trim l := Trim.trimP_idem Uni.isSpace l

theorem getLine_last (s : Src) : s.getLine ((s.entries.length : Int) - 1) =
    (match s.entries.getLast? with
     | some l => some l
     | none => match s.kind with | .memory => some [] | .file => none) := by
  obtain ⟨k, es⟩ := s
  rcases List.eq_nil_or_concat es with rfl | ⟨ys, l, rfl⟩
  · cases k <;> rfl
  · -- the last index is in range for either kind of source
    cases k <;> simp [Src.getLine, Int.lt_add_one_iff]

theorem lastDup_iff (s : Src) (line : Str) : lastDup s line = true ↔ LastIs s line := by
  unfold lastDup LastIs
  rw [getLine_last]
  cases he : s.entries.getLast? with
  | none =>
    -- no last entry: a memory source answers `some []`, which fails the `last ≠ ""` test, a file source fails
    cases s.kind <;> exact ⟨nofun, fun ⟨_, h, _⟩ => nomatch h⟩
  | some l =>
    simp only [Bool.and_eq_true, Bool.not_eq_true', beq_iff_eq]
    constructor
    · intro h
      exact ⟨l, rfl, List.isEmpty_eq_false_iff.mp h.1, h.2⟩
    · rintro ⟨last, h1, h2, h3⟩
      cases h1
      exact ⟨List.isEmpty_eq_false_iff.mpr h2, h3⟩

/-- Ordinary acceptance records a non-blank line exactly once in EVERY bound source that is not
full and does not already end with it — and leaves every other source exactly as it was —
whatever the order in which the sources are visited. -/
theorem accept_records_once (maxE : Int) (line : Str) (srcs : List (Str × Src))
    (hnb : (trim line).isEmpty = false) (n : Str) (s : Src) (hs : (n, s) ∈ srcs) :
    ∃ s', (n, s') ∈ accept false false maxE line srcs ∧
      ((Full maxE s ∨ LastIs s line) → s' = s) ∧
      (¬ Full maxE s → ¬ LastIs s line → RecordedOnce s s' line) := by
  refine ⟨writeOne maxE line s, ?_, fun h => ?_, fun hf hl => ?_⟩
  · rw [accept_eq, hnb, if_neg (by decide)]
    exact List.mem_map.mpr ⟨(n, s), hs, rfl⟩
  · unfold writeOne
    split
    next => rfl
    next hf => rw [if_pos ((lastDup_iff s line).mpr (h.resolve_left hf))]
  · unfold writeOne
    rw [if_neg (show ¬ (maxE = 0 ∨ (maxE > 0 ∧ (s.entries.length : Int) ≥ maxE)) from hf),
      if_neg (fun h => hl ((lastDup_iff s line).mp h))]
    -- the source's own Write appends exactly one entry
    unfold Src.write RecordedOnce
    cases hk : s.kind with
    | memory => exact ⟨rfl, rfl⟩
    | file =>
      have hb : trim line ≠ [] := List.isEmpty_eq_false_iff.mp hnb
      have hd2 : ¬ s.entries.getLast? = some (trim line) := fun h => hl ⟨trim line, h, hb, trim_idem line⟩
      dsimp only
      rw [if_neg hb, if_neg hd2]
      exact ⟨rfl, rfl⟩

/-- The outcome for a source depends on that source alone: visiting the sources in another order
(Go map iteration) gives every source the same result. -/
theorem order_independent (infer err : Bool) (maxE : Int) (line : Str) (srcs srcs' : List (Str × Src))
    (hp : srcs'.Perm srcs) : (accept infer err maxE line srcs').Perm (accept infer err maxE line srcs) := by
  rw [accept_eq, accept_eq]
  split
  · exact hp
  · exact hp.map _

/-- Lines returned with an error (interrupt, end-of-file) are never recorded. -/
theorem error_never_records (infer : Bool) (maxE : Int) (line : Str) (srcs : List (Str × Src)) :
    accept infer true maxE line srcs = srcs := by
  rw [accept_eq, if_pos (Or.inl rfl)]

/-- Lines accepted by the commands that replay history (operate-and-get-next,
accept-and-infer-next-history) are never recorded. -/
theorem infer_never_records (maxE : Int) (line : Str) (srcs : List (Str × Src)) :
    accept true false maxE line srcs = srcs := by
  rw [accept_eq, if_pos (Or.inr (Or.inl rfl))]

/-- Blank lines are never recorded. -/
theorem blank_never_records (infer err : Bool) (maxE : Int) (line : Str) (srcs : List (Str × Src))
    (hb : (trim line).isEmpty = true) : accept infer err maxE line srcs = srcs := by
  rw [accept_eq, if_pos (Or.inr (Or.inr hb))]

/-- With no limit configured (`history-size` unset: `maxEntries 0 false = -1`) no source is ever full: the `Full` clause of
`accept_records_once` then never applies. -/
theorem unset_limit_never_full (s : Src) : ¬ Full (maxEntries 0 false) s := by
  intro h
  have e : maxEntries 0 false = -1 := rfl
  rw [Full, e] at h
  omega

end RLV.Props.C08
