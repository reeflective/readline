import RLV.Model.Handoff
import RLV.Gen.KeyStack
/-! C20 — Resizes and async prints never break an edit in progress (property theorems, partial).

What a theorem can carry here is the protocol, not the scheduler: `Handoff` (Model/Handoff.lean) is a
finite model of the hand-off of cursor position reports between the key reading routine of the main
loop and a routine that redisplays from another goroutine (the resize watcher, `Shell.Printf`,
`Shell.PrintTransientf`); every interleaving of the two routines, of the terminal's answer and of
the user's typing is a path of `next`. The state space is finite (48 states) and is explored
exhaustively by the kernel.

Proved (all interleavings): a redisplay that queries the terminal while the main loop is parked in
its read can always still get its report — no state on any path is stuck, and from every state some
continuation completes the query. (That it DOES complete on every path needs fairness, which the model
does not assume: the main loop may leave and re-enter its read for ever without reading the report.)
The regenerated source facts say which routines can make such a query.

Also proved: the protocol is NOT deadlock-free for a query made while the main loop is between two
reads (`a_query_between_two_reads_can_deadlock`: the main loop then reads the report and waits for a
receiver that is itself blocked in a read). This is a statement about the model: the harness cannot
schedule it on the real code (its gated reader and the pty are different descriptors): an observation
(DESIGN.md), not a finding. Data races on the display coordinates, the
screen after a resize of wrapped rows, and every other effect of real scheduling are outside the
model: sessions deliver resizes (single and bursts) and application prints at every input wait. -/
namespace RLV.Props.C20
open RLV.Handoff

/-- one query, no second one: the steps of `next` except the query itself -/
def nextOne (s : St) : List St := (next s).filter (fun t => !(s.req = .idle ∧ t.req ≠ .idle))

def reachOne : Nat → List St → List St
  | 0, ss => ss
  | n+1, ss => reachOne n (ss ++ (ss.flatMap nextOne)).eraseDups

/-- the state right after a query made while the main loop is parked in its read -/
def askedWhileWaiting : St := ⟨.inRead, .recvChan, true, true⟩

/-- the state right after a query made while the main loop is between two reads -/
def askedBetweenReads : St := ⟨.between, .readStdin, true, true⟩

/-- the exploration is complete: the set is closed under every step. Depth 8 is enough for that; the `any`s below
exhibit a state and need no closure. -/
theorem exploration_is_closed :
    ((reachOne 8 [askedWhileWaiting]).flatMap nextOne).all (fun t => (reachOne 8 [askedWhileWaiting]).contains t) = true := by
  decide +kernel

/-- C20 (hand-off, all interleavings): after a query made while the main loop is parked in its read, no
reachable state is stuck, and from every reachable state the querying routine can still get its report
(some path leads to `got` or back to `idle`). -/
theorem a_query_while_the_loop_waits_always_completes :
    (reachOne 8 [askedWhileWaiting]).all (fun s =>
      !decide (Stuck s) && (reachOne 8 [s]).any (fun t => t.req = .got || t.req = .idle)) = true := by
  decide +kernel

/-- the other case, on the model only: a query made between two reads can end with the main loop
holding the report for a receiver that is blocked in its own read -/
theorem a_query_between_two_reads_can_deadlock :
    (reachOne 8 [askedBetweenReads]).any (fun s => decide (Stuck s)) = true := by
  decide +kernel

/-- a report that nobody asked for is keyboard input, not a hand-over to nobody (Ctrl-F3 sends the same
sequence; `readInputFiltered` tests `Keys.asked`): with no query pending, reading a report leaves the main loop
running -/
theorem an_unasked_report_does_not_block :
    (∀ t ∈ next ⟨.inRead, .idle, true, false⟩, t.main ≠ .forwarding) ∧
    (∀ t ∈ next ⟨.between, .idle, true, false⟩, t.main ≠ .forwarding) := by
  decide

/-- the routines that can query the terminal: only the redisplay asks for the cursor position, and
these are the callers of a redisplay (regenerated from the source) -/
theorem who_queries_the_terminal :
    RLV.Gen.KeyStack.cursorQueryCallers = ["internal/display:Engine.computeCoordinates"] ∧
    RLV.Gen.KeyStack.refreshCallers =
      [".:Shell.PrintTransientf", ".:Shell.Printf", ".:Shell.Readline", ".:Shell.dumpFunctions", ".:Shell.dumpMacros",
       ".:Shell.dumpVariables", ".:Shell.macroRun", ".:Shell.macroToggleRecord", ".:Shell.overwriteMode",
       ".:Shell.printLastKeyboardMacro", ".:Shell.standardCommands", ".:Shell.viChangeTo",
       "internal/display:WatchResize", "internal/display:WatchResize"] := ⟨rfl, rfl⟩

/-- `Handoff.next` was written against exactly this text of `Keys.GetCursorPos`, `Keys.readInputFiltered`
(keys_unix.go) and `WatchResize` (display_unix.go) -/
theorem handoff_text_is_the_modelled_one : RLV.Gen.KeyStack.handoffHash = 15899814264632820770 := by decide

end RLV.Props.C20
