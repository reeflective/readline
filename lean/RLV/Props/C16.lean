import RLV.Lemmas.KillCmds
import RLV.Gen.Effects
/-! C16 — Yank gives back exactly what kill took.

Of the kill ring only the top is modelled (`Kill.St.kill`, what `Buffers.GetKill` returns): `yank-pop` and numeric
arguments are not; `kill-word`, the Vi deletes and put-before have no command model (the sessions search them). -/
namespace RLV.Props.C16
open RLV.Core RLV.Kill

/-- Killing the range `[b, e)` and yanking the removed text at the cut point restores the buffer,
for every buffer without NUL runes and every range inside it. -/
theorem kill_yank_id (l : Line) (b e : Int) (hb : 0 ≤ b) (hbe : b ≤ e) (he : e ≤ len l)
    (hnz : ∀ c ∈ l, c ≠ 0) :
    ∃ l', cut l b e = .ok l' ∧ insert l' b (slice l b e) = .ok l :=
  cut_insert_id l b e hb hbe he hnz

/-- `Line.Cut` returns exactly the line without `[b, e)`. -/
theorem cut_removes_range (l : Line) (b e : Int) (hb : 0 ≤ b) (hbe : b ≤ e) (he : e ≤ len l) :
    cut l b e = .ok (l.take b.toNat ++ l.drop e.toNat) :=
  cut_spec l b e hb hbe he

-- the hypotheses are satisfiable by a non-trivial state
example : (0:Int) ≤ 1 ∧ (1:Int) ≤ 3 ∧ (3:Int) ≤ len [97, 98, 32, 99] ∧ ∀ c ∈ [97, 98, 32, 99], c ≠ 0 := by decide

/-! The commands themselves. `Kill.killLine`, `backwardKillLine`, `backwardKillWord`, `killWholeLine`, `killRegion`
and `yank` are the models of the command closures (emacs.go), compared with the real closures on every run
(`rlv-diff -model kill` and `killr`); `Kill.Restores s s1` says of the state `s1` a kill command leaves from `s`:
either it removed nothing and left the kill ring alone, or the kill ring's top is exactly the text it
removed (`s.line = s1.line.take p ++ s1.kill ++ s1.line.drop p`) and `yank` from `s1` gives a buffer
equal to `s.line`. -/

/-- `kill-line` then `yank` restores the buffer: EVERY buffer without NUL runes (any number of lines),
every cursor (in or out of range), every state of the selection (a mark or visual flags left set by earlier
commands included); the command never panics. -/
theorem kill_line_then_yank_restores (s : St) (hnz : ∀ c ∈ s.line, c ≠ 0) :
    ∃ s1, killLine s = .ok s1 ∧ Restores s s1 :=
  killLine_yank s hnz

/-- `backward-kill-line` (and `unix-line-discard`, the same closure) then `yank` restores the buffer. -/
theorem backward_kill_line_then_yank_restores (s : St) (hnz : ∀ c ∈ s.line, c ≠ 0) :
    ∃ s1, backwardKillLine s = .ok s1 ∧ Restores s s1 :=
  backwardKillLine_yank s hnz

/-- `backward-kill-word` then `yank` restores the buffer, whatever the tokeniser makes of the text
before the cursor (the only thing used of it: it never asks to move forward). Partial in two respects:
the `visualLine` flag must not be set (only `Selection.Visual(true)` sets it, which Vi's visual-line mode and the
whole-line forms of its operators call, and every selection reset clears it), and the statement does not say that
the command returns (`Kill.backwardKillWord_yank` does). -/
theorem backward_kill_word_then_yank_restores_partial (s s1 : St) (hnz : ∀ c ∈ s.line, c ≠ 0)
    (hvl : s.sel.visualLine = false) (h : backwardKillWord s = .ok s1) : Restores s s1 := by
  obtain ⟨s1', h', hr⟩ := backwardKillWord_yank s hnz hvl
  rw [h] at h'
  cases h'
  exact hr

/-- `Buffers.Write` of a non-empty text makes it the top of the kill ring — what `yank` inserts — whatever was
written before. (A kill that removed nothing writes nothing: `Kill.write_eq`.) -/
theorem most_recent_kill_is_on_top (s : St) (t u : List Nat) (hu : u ≠ []) :
    (write (write s t) u).kill = u := by
  rw [write_eq s t, write_eq]
  exact if_neg fun h => hu (List.isEmpty_iff.mp h)

-- non-vacuity: `ab cd\nef`, cursor after `ab`: kill-line stores ` cd`, leaves `ab\nef`, yank gives it back;
-- backward-kill-word from the end of `ab cd` stores `cd`
example : (match killLine { line := [97, 98, 32, 99, 100, 10, 101, 102], cur := ⟨2, -1⟩ } with
    | .ok s1 => s1.kill == [32, 99, 100] && s1.line == [97, 98, 10, 101, 102] &&
        (match yank s1 with | .ok s2 => s2.line == [97, 98, 32, 99, 100, 10, 101, 102] | _ => false)
    | _ => false) = true := by decide
example : (match backwardKillWord { line := [97, 98, 32, 99, 100], cur := ⟨5, -1⟩ } with
    | .ok s1 => s1.kill == [99, 100] && s1.line == [97, 98, 32] | _ => false) = true := by decide

/-- `kill-whole-line` (and `kill-buffer`, the same body) then `yank` restores the buffer: every buffer
without NUL runes, every cursor and selection state; the command never panics. -/
theorem kill_whole_line_then_yank_restores (s : St) (hnz : ∀ c ∈ s.line, c ≠ 0) :
    ∃ s1, killWholeLine s = .ok s1 ∧ Restores s s1 :=
  killWholeLine_yank s hnz

/-- `kill-region` then `yank` restores the buffer: every buffer without NUL runes, every cursor — at
either end of the region or anywhere else — and EVERY state of the selection (not active, a fixed range, a
pending mark completed by the cursor, visual flags left set); the command never panics. Of the point the statement
says only that `yank`, which inserts there, restores the buffer (`killRegion` ends with `cursor.Set(bpos)`). -/
theorem kill_region_then_yank_restores (s : St) (hnz : ∀ c ∈ s.line, c ≠ 0) :
    ∃ s1, killRegion s = .ok s1 ∧ Restores s s1 :=
  killRegion_yank s hnz

-- non-vacuity: `ab cd ef` with the region `[3, 5)` (`cd`) and the point at its END: the text is stored,
-- the point goes to 3, yank puts it back
example : (match killRegion { line := [97, 98, 32, 99, 100, 32, 101, 102], cur := ⟨5, -1⟩,
                              sel := RLV.Sel.markRange [97, 98, 32, 99, 100, 32, 101, 102] {} 3 5 } with
    | .ok s1 => s1.kill == [99, 100] && s1.line == [97, 98, 32, 32, 101, 102] && s1.cur.pos == 3 &&
        (match yank s1 with | .ok s2 => s2.line == [97, 98, 32, 99, 100, 32, 101, 102] | _ => false)
    | _ => false) = true := by decide

/-- Tie to the source (regenerated by `rlv-dump` on every run): the commands that can write the kill
ring (`Buffers.Write` reachable from their closure) are exactly these — the kill commands, the copy
commands and the Vi deletes/yanks. The session oracle drives every kill command of this list by name;
a command that starts (or stops) writing the ring breaks this theorem. -/
theorem the_kill_ring_is_written_by_these_commands_only :
    (Gen.Effects.reached.filter fun e => e.2.contains "Buffers.Write").map (·.1) =
      ["backward-kill-line", "backward-kill-word", "copy-backward-word", "copy-forward-word", "copy-region-as-kill",
       "kill-buffer", "kill-line", "kill-region", "kill-whole-line", "kill-word", "shell-backward-kill-word",
       "shell-kill-word", "unix-line-discard", "unix-word-rubout", "vi-change-to", "vi-delete", "vi-delete-to",
       "vi-kill-eol", "vi-kill-line", "vi-rubout", "vi-subst", "vi-unix-word-rubout", "vi-yank-to",
       "vi-yank-whole-line"] := by decide +kernel

end RLV.Props.C16
