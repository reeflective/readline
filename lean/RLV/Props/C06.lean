import RLV.Lemmas.Sel
import RLV.Gen.Effects
import RLV.Lemmas.Move
import RLV.Lemmas.StrTable
/-! C06 — Cursor and selection stay inside the buffer; movements never edit.

`Core.checkAppend` / `Core.checkCommand` are the models of `Cursor.CheckAppend` / `CheckCommand`
(internal/core/cursor.go) — what `Shell.execute` runs after EVERY command, in the insert keymaps and
in the Vi command keymaps respectively — and `Sel.pos` of `Selection.Pos` (internal/core/selection.go);
all compared with the real methods on every run (`rlv-diff -model core|sel`).
`Gen.Effects` is read off the SOURCE of the working tree on every run (`rlv-dump`, go/parser): for
every registered command, the buffer-writing primitives its method can reach through calls of other
`*Shell` methods, split by whether a `history-autosuggest` test guards the way. -/
namespace RLV.Props.C06
open RLV RLV.Core

/-- After any command whatsoever, in the insert keymaps: the cursor is inside the buffer and the
mark is unset or a valid index — for ANY cursor and mark values the command may have left. -/
theorem cursor_in_buffer_after_any_command (l : Line) (c : Cur) :
    0 ≤ (checkAppend l c).pos ∧ (checkAppend l c).pos ≤ len l ∧
    ((checkAppend l c).mark = -1 ∨ (0 ≤ (checkAppend l c).mark ∧ (checkAppend l c).mark ≤ len l - 1)) :=
  checkAppend_range l c

/-- After any command in the Vi command keymaps: the check never fails, the cursor is inside the
buffer and ON A CHARACTER, unless the buffer is empty or the cursor is on an empty line. -/
theorem vi_cursor_on_a_character_after_any_command (l : Line) (c : Cur) :
    ∃ c', checkCommand l c = .ok c' ∧ 0 ≤ c'.pos ∧ c'.pos ≤ len l ∧
      (len l = 0 ∨ OnEmptyLine l c'.pos ∨ (c'.pos < len l ∧ charOf l c'.pos ≠ 10)) :=
  have ⟨c', hc, h0, h1, h2⟩ := checkCommand_spec l c
  ⟨c', hc, h0, Int.le_trans h1 (checkAppend_range l c).2.1, h2⟩

/-- The selection reported by the API lies within the buffer: for ANY internal field values of the
selection and ANY cursor, `Selection.Pos()` returns (never panics) "no selection" or
`0 ≤ bpos ≤ epos ≤ len`. -/
theorem selection_in_buffer (l : Line) (s : Sel.S) (cur : Cur) :
    ∃ r, Sel.pos l s cur = .ok r ∧
      ((r.1 = -1 ∧ r.2.1 = -1) ∨ (0 ≤ r.1 ∧ r.1 ≤ r.2.1 ∧ r.2.1 ≤ len l)) :=
  have ⟨b, e, s1, h⟩ := Sel.denotes l s cur
  ⟨(b, e, s1), h.pos, h.range⟩

/-- the registry groups documented as movements (emacs.go "Moving", vim.go "Movement") -/
def movementGroups : List String := ["Moving", "Movement"]

/-- the commands documented as copies/yanks, marks, character searches and text-object selectors -/
def copyCommands : List String :=
  ["copy-region-as-kill", "copy-backward-word", "copy-forward-word", "vi-yank-to", "vi-yank-whole-line",
   "set-mark", "exchange-point-and-mark", "character-search", "character-search-backward",
   "vi-set-mark", "vi-goto-mark", "vi-char-search", "vi-find-next-char", "vi-find-next-char-skip",
   "vi-find-prev-char", "vi-find-prev-char-skip", "select-a-blank-word", "select-a-shell-word", "select-a-word",
   "select-in-blank-word", "select-in-shell-word", "select-in-word", "vi-select-inside", "vi-select-surround"]

/-- every command of the movement groups that is a `*Shell` method, plus the copy commands -/
def pureCommands : List String :=
  ((Gen.Effects.registry.filter fun e => movementGroups.contains e.2.2 && e.2.1 != "").map (·.1)) ++ copyCommands

/-- the buffer-writing primitives `c` reaches with no `history-autosuggest` guard on the way -/
def unguarded (c : String) : Option (List String) := Gen.Effects.unguardedWriters.lookup c

/-- Commands documented as pure movements or copies/yanks reach NO primitive that writes the buffer
text (`Line.Insert/InsertBetween/Cut/CutRune/Set`, a store through the line pointer, `Cursor.InsertAt/
ReplaceWith`, `Selection.Cut/ReplaceWith/InsertAt/Surround`, history walks and undo, the completion
engine, macro replay, key feeding) — except behind a `history-autosuggest` test, where `forward-char`
and the word motions accept the suggestion (their documented function with that option on). -/
theorem movements_and_copies_reach_no_writer :
    ∀ c ∈ pureCommands, unguarded c = some [] := by
  -- by the bytes of the keys (`lookup_bytes`): comparing strings is what makes the sweep slow
  simp only [unguarded, lookup_bytes]
  decide +kernel

/-- the table is not vacuous: the movement groups are there, and editing commands do reach writers -/
theorem effect_table_is_meaningful :
    pureCommands.length ≥ 50 ∧ "forward-word" ∈ pureCommands ∧ "vi-match" ∈ pureCommands ∧
    unguarded "kill-line" = some ["selection.Cut"] ∧
    Gen.Effects.guardedWriters.lookup "forward-word" = some ["line.Insert"] ∧
    (unguarded "self-insert").map (·.contains "cursor.InsertAt") = some true := by decide +kernel

/-! `Move.forwardChar`, `backwardChar`, `forwardWord`, `backwardWord` (with their numeric argument),
`beginningOfLine` and `endOfLine` (which take none) are the models of the Emacs command closures
(history-autosuggest off), compared with the real closures on every run (`rlv-diff -model move`: multi-byte
text, newlines, counts). -/

/-- The modelled movements never change the text, the kill ring or the selection — for EVERY buffer,
cursor (in or out of range), numeric argument and selection state — and whatever the cursor they leave,
the post-command check puts it inside the buffer (as it does from any state: `checkAppend_range`). -/
theorem modelled_movements_never_edit (s s1 : Kill.St) (n : Int) :
    (Move.forwardChar s n = .ok s1 ∨ Move.backwardChar s n = .ok s1 ∨ Move.forwardWord s n = .ok s1 ∨
     Move.backwardWord s n = .ok s1 ∨ Move.beginningOfLine s = .ok s1 ∨ Move.endOfLine s = .ok s1) →
    Move.SameText s s1 ∧ 0 ≤ (Core.checkAppend s1.line s1.cur).pos ∧
      (Core.checkAppend s1.line s1.cur).pos ≤ Core.len s1.line := by
  intro h
  have hr := Core.checkAppend_range s1.line s1.cur
  refine ⟨?_, hr.1, hr.2.1⟩
  rcases h with h | h | h | h | h | h
  · exact Move.forwardChar_same s s1 n h
  · exact Move.backwardChar_same s s1 n h
  · exact Move.forwardWord_same s s1 n h
  · exact Move.backwardWord_same s s1 n h
  · exact Move.beginningOfLine_same s s1 h
  · exact Move.endOfLine_same s s1 h

-- non-vacuity: `ab cd`, cursor 0: forward-word twice goes to the end of `cd`, nothing else changes
example : (match Move.forwardWord { line := [97, 98, 32, 99, 100], cur := ⟨0, -1⟩, kill := [120] } 2 with
    | .ok s1 => s1.line == [97, 98, 32, 99, 100] && s1.kill == [120] && (Core.checkAppend s1.line s1.cur).pos == 5
    | _ => false) = true := by decide

end RLV.Props.C06
