import RLV.Lemmas.MenuGroups
/-! C15 — Menu completion cycles through every candidate exactly once (property theorems).

`Menu2.move` is the stage-wise model of `(*group).moveSelector` for plain (non-aliased) groups
(internal/completion/group.go); the executable menu model the differential compares with the real
`completion.Engine` (`rlv-diff -model menu`: `GenerateWith`, `Select(±1, 0)`, `Line()`) runs this very
definition for its plain groups. `tab` is one `menu-complete` inside a group: a move, and on
`done` the first cell again. A grid is ANY shape the engine can build for a plain group:
`n ≥ 1` candidates in rows of `c ≥ 1` columns with a possibly shorter last row (`Grid`).

Proved for every `n`, `c`, and every valid starting cell — no bound on the number of candidates,
columns, rows or presses — forwards (`menu-complete`) and backwards (`menu-complete-backward`:
`tabBack`, a move back and on `done` the last cell). The hand-over between SEVERAL groups (tags) is proved
on the menu model itself (`Menu.select`, the function the differential runs): any number of
plain groups of any shapes, forwards and backwards. Aliased (shared-description) groups are decided by the
correspondence and by sessions, not by a theorem. -/
namespace RLV.Props.C15
open RLV RLV.Menu2 RLV.Core

/-- After `k` presses the selector is on the candidate of row-major index `(i + k) mod n`. -/
theorem tab_advances_by_one_mod_n {n c : Nat} (k : Nat) (s : Sel) (g : Grid s n c) (hv : Valid s) :
    ∃ s', tabs k s = .ok s' ∧ Valid s' ∧ Grid s' n c ∧ idx s' c = ((idx s c + k) % n) :=
  tabs_index k s g hv

/-- From the first candidate, the first `n` presses visit `n` pairwise distinct candidates — all of
them, each exactly once — and the next press is back on the first: press `k` selects index `k mod n`.
(Stated as that last sentence, followed by what makes it say the rest: `k ↦ k mod n` is one-to-one on `[0, n)`
and onto it, and `n mod n = 0`; these three are facts about `mod` alone.) -/
theorem cycle_visits_each_once {n c : Nat} (s : Sel) (g : Grid s n c) (hv : Valid s) (h0 : idx s c = 0) :
    (∀ k, ∃ s', tabs k s = .ok s' ∧ idx s' c = ((k : Int) % n)) ∧
    (∀ k₁ k₂, k₁ < n → k₂ < n → (k₁ : Int) % n = (k₂ : Int) % n → k₁ = k₂) ∧
    (∀ j, j < n → ∃ k, k < n ∧ (k : Int) % n = j) ∧
    ((n : Int) % n = 0) := by
  refine ⟨?_, ?_, ?_, ?_⟩
  · intro k
    obtain ⟨s', h1, _, _, h2⟩ := tabs_index k s g hv
    exact ⟨s', h1, by rw [h2, h0, Int.zero_add]⟩
  · intro k₁ k₂ h1 h2 he
    rw [Int.emod_eq_of_lt (by omega) (by omega), Int.emod_eq_of_lt (by omega) (by omega)] at he
    exact Int.ofNat_inj.mp he
  · intro j hj
    exact ⟨j, hj, Int.emod_eq_of_lt (by omega) (by omega)⟩
  · exact Int.emod_self

/-- A press never fails and never leaves the grid: the selector stays on a real candidate
(no index out of range in `rows[posY][posX]`), whatever the shape. -/
theorem tab_stays_on_a_candidate {n c : Nat} (s : Sel) (g : Grid s n c) (hv : Valid s) :
    ∃ s', tab s = .ok s' ∧ Valid s' := by
  obtain ⟨s', h1, h2, _⟩ := tab_step g hv
  exact ⟨s', h1, h2⟩

/-- A backward press selects the previous candidate in row-major order, the last one from the first:
index `(i - 1) mod n`; it never fails and stays on a real candidate. -/
theorem shift_tab_goes_back_by_one_mod_n {n c : Nat} (s : Sel) (g : Grid s n c) (hv : Valid s) :
    ∃ s', tabBack s = .ok s' ∧ Valid s' ∧
      idx s' c = (if idx s c = 0 then (n : Int) - 1 else idx s c - 1) :=
  tabBack_step g hv

/-- Backward undoes forward: a press followed by a backward press is on the candidate it started from
(so the backward cycle visits the same candidates in the opposite order, each exactly once). -/
theorem shift_tab_undoes_tab {n c : Nat} (s : Sel) (g : Grid s n c) (hv : Valid s) :
    ∃ s1 s2, tab s = .ok s1 ∧ tabBack s1 = .ok s2 ∧ idx s2 c = idx s c := by
  obtain ⟨s1, h1, hv1, hr, hR, hi, _⟩ := tab_step g hv
  obtain ⟨s2, h2, _, hi2⟩ := tabBack_step (g.congr hr hR) hv1
  have h0 : 0 ≤ idx s c := idx_nonneg hv
  refine ⟨s1, s2, h1, h2, ?_⟩
  rw [hi2, hi]
  -- wrapped forwards (to `0`) and so backwards (to `n - 1`), or neither
  split <;> split <;> omega

-- non-vacuity: 7 candidates in rows of 3 (a 3×3 grid with a short last row), selector on the first
def grid7 : Sel := { rows := fun y => if y < 2 then 3 else 1, R := 3, maxX := 3, x := 0, y := 0 }
example : Grid grid7 7 3 ∧ Valid grid7 ∧ idx grid7 3 = 0 := by
  refine ⟨{ hc := by decide, hR := by decide, hlast := by decide, hlast1 := by decide, hlastc := by decide,
            hrows := fun y hy => ?_ }, ⟨by decide, by decide, by decide, by decide⟩, by decide⟩
  have hy2 : y < 2 := by
    change y + 1 < 3 at hy
    omega
  exact if_pos hy2

/-- One `menu-complete` over any number of groups moves to the next candidate of the whole menu — the
next one of the current group, the first of the next group after the last one, the first of the first
group after the very last —, never fails, returns a candidate, and keeps the menu well formed. -/
theorem tab_over_groups_advances_by_one_mod_total (m : Menu.Menu) (ns cs : List Nat) (i : Nat)
    (h : Menu.MInv m ns cs i) (hlen : ns.length = m.length) :
    ∃ m' v i', Menu.select m 1 0 = .ok (m', some v) ∧ Menu.MInv m' ns cs i' ∧
      Menu.gpos m' ns cs i' = (Menu.gpos m ns cs i + 1) % (ns.sum : Int) := by
  obtain ⟨m', v, i', h1, h2, _, h3⟩ := Menu.select_gpos h hlen (Or.inl rfl)
  exact ⟨m', v, i', h1, h2, h3⟩

/-- After `k` presses the selector is on candidate `(p + k) mod N` of the whole menu (`p` = `gpos`, its position before;
`N` = `ns.sum`, the total number of candidates): `N` presses visit every candidate of every group exactly once and
come back. -/
theorem cycle_over_groups_visits_each_once (m : Menu.Menu) (ns cs : List Nat) (i k : Nat)
    (h : Menu.MInv m ns cs i) (hlen : ns.length = m.length) :
    ∃ m' i', Menu.presses k m = .ok m' ∧ Menu.MInv m' ns cs i' ∧
      Menu.gpos m' ns cs i' = (Menu.gpos m ns cs i + k) % (ns.sum : Int) := by
  obtain ⟨m', i', h1, h2, _, h3⟩ := Menu.presses_gpos ns cs k m i h hlen
  exact ⟨m', i', h1, h2, h3⟩

-- non-vacuity: two groups, 3 candidates in rows of 2 (ids 10 11 / 12) and 2 candidates in one row
-- (20 21), the first group current on its last candidate: one press goes to 20, three more to 11
def menu2 : Menu.Menu :=
  [{ rows := [[10, 11], [12]], ncols := 2, maxX := 2, maxY := 2, posX := 0, posY := 1, isCurrent := true },
   { rows := [[20, 21]], ncols := 2, maxX := 2, maxY := 1 }]
example : (match Menu.select menu2 1 0 with
    | .ok (m1, some v) => v == 20 && (match Menu.presses 3 m1 with
        | .ok m4 => (match Menu.selected (m4.getD 0 Menu.dflt) with | .ok w => w == 11 | _ => false) &&
            (m4.getD 0 Menu.dflt).isCurrent
        | _ => false)
    | _ => false) = true := by decide +kernel

/-- One `menu-complete-backward` over any number of groups moves to the PREVIOUS candidate of the whole
menu — the previous one of the current group, the last of the previous group before the first one, the
last of the last group before the very first —, never fails, returns a candidate, keeps the menu well
formed: position `(p - 1) mod N` (`p` = `gpos`, `N` = `ns.sum`). With `tab_over_groups_advances_by_one_mod_total`:
the backward cycle visits the same candidates in the opposite order, each exactly once. -/
theorem shift_tab_over_groups_goes_back_by_one_mod_total (m : Menu.Menu) (ns cs : List Nat) (i : Nat)
    (h : Menu.MInv m ns cs i) (hlen : ns.length = m.length) :
    ∃ m' v i', Menu.select m (-1) 0 = .ok (m', some v) ∧ Menu.MInv m' ns cs i' ∧
      Menu.gpos m' ns cs i' = (Menu.gpos m ns cs i - 1) % (ns.sum : Int) := by
  obtain ⟨m', v, i', h1, h2, _, h3⟩ := Menu.select_gpos h hlen (Or.inr rfl)
  exact ⟨m', v, i', h1, h2, h3⟩

-- non-vacuity: from the first candidate of the second group of `menu2'` a backward press goes to the
-- last candidate of the first group (12), from the first of the first group to the last of the last (21)
def menu2' : Menu.Menu :=
  [{ rows := [[10, 11], [12]], ncols := 2, maxX := 2, maxY := 2 },
   { rows := [[20, 21]], ncols := 2, maxX := 2, maxY := 1, posX := 0, posY := 0, isCurrent := true }]
example : (match Menu.select menu2' (-1) 0 with
    | .ok (m1, some v) => v == 12 && (match Menu.select m1 (-1) 0 with
        | .ok (m2, some w) => w == 11 && (match Menu.select m2 (-1) 0 with
            | .ok (m3, some x) => x == 10 && (match Menu.select m3 (-1) 0 with
                | .ok (_, some y) => y == 21 | _ => false)
            | _ => false)
        | _ => false)
    | _ => false) = true := by decide +kernel

end RLV.Props.C15
