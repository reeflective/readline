import RLV.Lemmas.NoSpin
import RLV.Gen.KeyStack
import RLV.Lemmas.Move
import RLV.Lemmas.KillCmds
/-! C01 — Readline never crashes, spins or deadlocks on any keyboard input.

`MLoop.iter` is the model of one iteration of the `for` loop of `Shell.Readline` (readline.go) as far as the key
stack is concerned, with bind macros fed back to the stack (and the bound on nested feeds of internal/core/keys.go);
`MLoop.session` is the whole call on a list of terminal reads. The dispatchers are those of Model/Keys.lean. The
commands are abstract: `WB C` says all that is assumed of them. Model and code are compared on every run:
`rlv-diff -model disp|local|loop` (real `core.Keys`, `keymap.Engine`), and the session oracle of C01 runs the real
`Readline`. The theorems about the loop hold for EVERY bind table of the main and local keymaps, every key stack
(typed or fed, with any stale dispatcher state) in a state `MLoop.Good s` (the feed counter within its bound while no
fed key has been dispatched, no command registered under the empty name), every macro — self-calling ones included —
and every behaviour of the commands within `WB`.

The commands that ARE modelled (the kill commands of C16 and the movements of C06, compared with the real closures
by `rlv-diff -model kill|killr|move`) are proved never to panic (`modelled_commands_never_panic`).

Not in the model (decided by the session oracle only): what the other commands do to the line (the panics found
there are listed in known_findings.json), the goroutines of the key reader, the display. -/
namespace RLV.Props.C01
open RLV RLV.MLoop

/-- C01 (no busy loop): from any state of the main loop with `Good s`, finitely many iterations without a read of
the terminal lead to a state in which the call has returned or is blocked reading the terminal. -/
theorem no_busy_loop_between_reads (C : Cmds) (hC : WB C) (s : LS) (hg : Good s) :
    ∃ n, Settled (iterN C n s) :=
  settle_induction C hC (P := fun s => ∃ n, Settled (iterN C n s)) (fun _ _ hs => ⟨0, hs⟩)
    (fun _ _ hs ⟨n, hn⟩ => ⟨n + 1, by rwa [iterN_succ C hs]⟩) s hg

/-- C01 (the whole call): from a state with `Good s`, on any finite sequence of terminal reads, whatever their contents
and however they are cut, the call ends: returned, or blocked in a read at the end of the input. -/
theorem call_ends_on_any_finite_input (C : Cmds) (hC : WB C) (chunks : List (List Nat)) (s : LS)
    (hg : Good s) : ∃ fuel, (session C fuel chunks s).2 = true :=
  session_ends C hC chunks s hg

/-- One iteration: it leaves the loop settled, or the measure of the key stack decreases in the
lexicographic order (a key consumed, or one of the `maxNested` feeds used up), or the stale prefixed
bind is dropped. -/
theorem every_iteration_progresses (C : Cmds) (hC : WB C) (s : LS) (hg : Good s) (hns : ¬ Settled s) :
    Settled (iter C s) ∨ lt3 (m3 (iter C s).eng.keys) (m3 s.eng.keys) ∨
      (le3 (m3 (iter C s).eng.keys) (m3 s.eng.keys) ∧ Pr (iter C s).eng < Pr s.eng) :=
  (iter_progress C hC s hg hns).2

/-- After `MatchMain` the next `WaitAvailableKeys` reads the terminal (every key was read as a proper prefix and pushed
back with the order to wait, or there was none), or no prefix is reported and at least one key is gone — even when the
keymap has no bind usable in the current mode. (`hpos` is not used: it holds on an empty stack too.) -/
theorem main_dispatch_consumes_or_waits (e : Eng) (hpos : 0 < e.keys.pending) :
    (needRead (matchMain e).1.keys = true) ∨
    ((matchMain e).2.2.2 = false ∧ (matchMain e).1.keys.pending < e.keys.pending) :=
  (matchMain_out e).keys.ends.imp_right (And.imp_right fun h => h.resolve_right id)

/-- a prefix reported by either dispatcher means the next `WaitAvailableKeys` reads the terminal (for `MatchLocal`: on
a stack with keys waiting, `hpos`, and `matched` flushed, `hfl`) -/
theorem prefix_means_wait (e : Eng) (ltbl : List (Seq × Bind)) (is : Bool)
    (hfl : e.keys.matched = []) (hpos : 0 < e.keys.pending) :
    ((matchMain e).2.2.2 = true → needRead (matchMain e).1.keys = true) ∧
    ((matchLocal e ltbl is).2.2.2 = true → needRead (matchLocal e ltbl is).1.keys = true) :=
  ⟨(matchMain_out e).keys.blocked, (matchLocal_out e ltbl is hfl hpos).keys.blocked⟩

/-- the slice `read[len(matched):]` `MatchLocal` pushes back is always in range -/
theorem pushback_slice_in_range (tbl : List (Seq × Bind)) (e : Eng) :
    let r := dispatchKeys tbl e.keys.pending e [] [] false
    r.2.2.2.length ≤ r.2.2.1.length :=
  (dispatchKeys_dispatched (tbl := tbl) (e := e) rfl).mle

/-- the invariant of the loop survives every read of the terminal (the feed counter and the flag are
reset by `WaitAvailableKeys`) -/
theorem read_keeps_the_invariant (s : LS) (c : List Nat) (hg : Good s) : Good (MLoop.read s c) :=
  read_good s c hg

/-! The tie of `WB` and of the loop model to the source, regenerated on every run by `rlv-dump`
(go/parser facts in RLV/Gen/KeyStack.lean): a change of any of these facts breaks the theorem. -/

/-- The fields of `core.Keys` are unexported, and assigned by these functions of internal/core only —
the ones modelled in Model/Keys.lean (`PopKey`/`Pop`/`ReadKey`/`PopForce` = `Keys.pop`, `MatchedKeys`,
`MatchedPrefix`, `FlushUsed`, `Feed`, `WaitAvailableKeys` = `MLoop.read`; `GetCursorPos` appends the
type-ahead read together with a cursor report, a read of the terminal). -/
theorem key_stack_is_written_by_the_modelled_functions :
    Gen.KeyStack.fieldWriters =
      [("buf", ["Keys.GetCursorPos", "Keys.Pop", "Keys.ReadKey", "MatchedKeys", "MatchedPrefix", "PopForce", "PopKey", "WaitAvailableKeys"]),
       ("macroKeys", ["Keys.Feed", "Keys.Pop", "Keys.ReadKey", "PopForce", "PopKey"]),
       ("mustWait", ["MatchedKeys", "MatchedPrefix", "PopForce"]),
       ("fromMacro", ["Keys.Pop", "Keys.ReadKey", "PopForce", "PopKey", "WaitAvailableKeys"]),
       ("nested", ["Keys.Feed", "WaitAvailableKeys"]),
       ("matched", ["FlushUsed", "Keys.Pop", "Keys.ReadKey", "MatchedKeys", "MatchedPrefix"]),
       ("closed", ["Keys.ReadKey", "WaitAvailableKeys"]),
       ("partial", ["Keys.convertMeta"]),
       ("asked", ["Keys.GetCursorPos"])] := rfl

/-- `WB.prefixed`: only the dispatcher assigns `Engine.prefixed` -/
theorem prefixed_bind_is_written_by_the_dispatcher_only :
    Gen.KeyStack.prefixedWriters = ["Engine.dispatchKeys", "Engine.handleEscape"] := rfl

/-- the callers of `Keys.Feed`: `Shell.run` (bind macros, `runBind`), the two macro replay functions
and two commands (`WB.keys`) -/
theorem keys_are_fed_by_these_functions_only :
    Gen.KeyStack.feedCallers = [".:Shell.doLowercaseVersion", ".:Shell.prefixMeta", ".:Shell.run",
      "internal/macro:Engine.RunLastMacro", "internal/macro:Engine.RunMacro"] := rfl

/-- the command lists restricting the main keymap in the search modes, and the bound on nested feeds,
are the ones of the source -/
theorem search_mode_lists_and_bounds_are_the_source_s :
    Gen.KeyStack.isearchCommands = RLV.isearchCommands ∧
    Gen.KeyStack.nonIsearchCommands = RLV.nonIsearchCommands ∧
    Gen.KeyStack.maxNestedFeeds = Keys.maxNested := ⟨rfl, rfl, rfl⟩

/-- `MLoop.iter` / `MLoop.runBind` (and the transcription the `loop` differential drives) were written
against exactly this text of the `for` loop of `Shell.Readline` and of `Shell.run` -/
theorem loop_text_is_the_modelled_one :
    Gen.KeyStack.readlineLoopHash = 15330789783778006253 ∧
    Gen.KeyStack.shellRunHash = 2639934839357153004 := ⟨rfl, rfl⟩

-- non-vacuity: commands that leave the key stack alone are within `WB` …
example : WB ⟨fun _ _ s => s⟩ := WB.of_eng_eq fun _ _ _ => rfl

-- … and a macro that feeds its own key (`"a": "a"`) is stopped by the bound on nested feeds: typing
-- `a` once, the loop settles (blocked in the next read) after 34 iterations
example :
    let tbl : List (Seq × Bind) := [([97], ⟨"a", true⟩)]
    let s0 : LS := { eng := { mainTbl := tbl, keys := { buf := [97] } } }
    Settled (iterN ⟨fun _ _ s => s⟩ 40 s0) ∧ ¬ Settled (iterN ⟨fun _ _ s => s⟩ 33 s0) := by
  decide +kernel

/-- C01 (command bodies, the modelled ones): from EVERY state — any buffer, any cursor in or out of
range, any selection fields, any numeric argument — the models of forward-char, backward-char,
forward-word and backward-word return (no index out of range in the tokenizer, `Line.ForwardEnd`,
`Line.Backward`), and so do, on buffers without NUL runes, kill-line, backward-kill-line, kill-whole-line
and kill-region. -/
theorem modelled_commands_never_panic (s : Kill.St) (n : Int) :
    (∃ s1, Move.forwardChar s n = .ok s1) ∧ (∃ s1, Move.backwardChar s n = .ok s1) ∧
    (∃ s1, Move.forwardWord s n = .ok s1) ∧ (∃ s1, Move.backwardWord s n = .ok s1) ∧
    ((∀ c ∈ s.line, c ≠ 0) →
      (∃ s1, Kill.killLine s = .ok s1) ∧ (∃ s1, Kill.backwardKillLine s = .ok s1) ∧
      (∃ s1, Kill.killWholeLine s = .ok s1) ∧ (∃ s1, Kill.killRegion s = .ok s1)) :=
  ⟨Move.forwardChar_total s n, Move.backwardChar_total s n, Move.forwardWord_total s n,
    Move.backwardWord_total s n, fun hnz =>
      ⟨(Kill.killLine_yank s hnz).imp fun _ => And.left, (Kill.backwardKillLine_yank s hnz).imp fun _ => And.left,
       (Kill.killWholeLine_yank s hnz).imp fun _ => And.left, (Kill.killRegion_yank s hnz).imp fun _ => And.left⟩⟩

end RLV.Props.C01
