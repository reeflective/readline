import RLV.Lemmas.CompLine
import RLV.Gen.CompFacts
/-! C14 — Completion only rewrites the word being completed (property theorems).

`Comp.insertCandidate` is the model of `(*Engine).insertCandidate` (internal/completion/insert.go): move the cursor
back by the RUNE count of the prefix, cut that many runes, insert the candidate there. The theorems after the first
are about the engine's real and virtual line, `CompLine.select` / `selects` / `cancel` / `visible` (Model/CompLine).
Both models are compared with a real `completion.Engine` on every run (`rlv-diff -model comp`: `GenerateWith`,
`Select`, `Line`; `-model compseq`: sequences of operations). Run in these comparisons too, with no theorem about
them: `Comp.setPrefix` (`setPrefix`, utils.go), `Comp.selectBlankWord`, `CompLine.accept` (`acceptCandidate`: the same
three steps on the real line, without the length guard), `prepare`, `edit`, `clearMenu`. -/
namespace RLV.Props.C14
open RLV RLV.Core RLV.Comp RLV.CompLine

/-- Inserting a candidate only replaces the `|prefix|` runes before the cursor: for EVERY buffer,
cursor, prefix no longer than the text before the cursor, and candidate value (without NUL runes)
that passes the length guard, the new buffer is
`text before the prefix ++ value ++ text after the cursor` and the cursor sits after the value.
Nothing before the word and nothing after the cursor is touched. -/
theorem insert_only_replaces_the_prefix (l : Line) (cpos : Int) (pfx value : List Nat)
    (h0 : 0 ≤ cpos) (h1 : cpos ≤ len l) (hp : (pfx.length : Int) ≤ cpos)
    (hz : ∀ c ∈ value, c ≠ 0) (hg : ¬ value.length < pfx.length) :
    insertCandidate l cpos pfx value =
      .ok (l.take (cpos - pfx.length).toNat ++ value ++ l.drop cpos.toNat, cpos - pfx.length + value.length) :=
  CompLine.insertCandidate_spec l cpos pfx value h1 hp hz hg

-- non-vacuity of the hypotheses on the cursor: `ls fi -l`, cursor after `fi`, prefix `fi`
example : (0 : Int) ≤ 5 ∧ (5 : Int) ≤ len [108, 115, 32, 102, 105, 32, 45, 108] ∧
    (([102, 105] : List Nat).length : Int) ≤ 5 := by
  decide

/-- Selecting a candidate shows it in place of the prefix and nothing else, and does not touch the
real line: whatever was shown before is dropped first. -/
theorem selecting_shows_the_candidate_in_place_of_the_prefix (s : St) (v : List Nat)
    (g : Good s) (ok : OKv s v) (hv : v ≠ []) :
    ∃ s', select s v = .ok s' ∧ visible s' = (shown s v, shownCur s v) ∧
      s'.line = s.line ∧ s'.cur = s.cur :=
  ⟨_, select_spec s v g ok, visible_showing g hv, rfl, rfl⟩

/-- Cycling through ANY sequence of candidates never accumulates text: after the last `Select` the
line shown is the original line with the LAST candidate in place of the prefix. -/
theorem cycling_shows_the_last_candidate_only (s : St) (vs : List (List Nat)) (v : List Nat)
    (g : Good s) (ok : ∀ w ∈ vs ++ [v], OKv s w) (hv : v ≠ []) :
    ∃ s', selects s (vs ++ [v]) = .ok s' ∧ visible s' = (shown s v, shownCur s v) ∧
      s'.line = s.line ∧ s'.cur = s.cur :=
  ⟨_, selects_spec s vs v g ok, visible_showing g hv, rfl, rfl⟩

/-- Cancelling the menu (`Cancel(true, _)`: what abort / Ctrl-C runs, through `ResetForce`, unless the forced
autocompletion of incremental search is on) after any cycle, of any length, restores the original buffer
and cursor: both the real pair and what `Engine.Line()` hands out. -/
theorem cancelling_after_any_cycle_restores_line_and_cursor (s : St) (vs : List (List Nat))
    (g : Good s) (ok : ∀ w ∈ vs, OKv s w) :
    ∃ s', selects s vs = .ok s' ∧ (cancel s' true).line = s.line ∧ (cancel s' true).cur = s.cur ∧
      visible (cancel s' true) = (s.line, s.cur) := by
  rcases List.eq_nil_or_concat vs with rfl | ⟨ws, w, rfl⟩
  · exact ⟨s, rfl, cancel_true_restores s g⟩
  · rw [List.concat_eq_append] at ok ⊢
    exact ⟨_, selects_spec s ws w g ok, cancel_true_restores _ (showing_good g w)⟩

/-- Keeping the candidate (`Cancel(false, _)`, what `UpdateInserted` runs before the next command, outside
incremental search) after any cycle makes the real line the original line with the last candidate in place
of the prefix: text before the word and text after the cursor unchanged, cursor after the value. -/
theorem keeping_after_any_cycle_inserts_the_last_candidate (s : St) (vs : List (List Nat)) (v : List Nat)
    (g : Good s) (ok : ∀ w ∈ vs ++ [v], OKv s w) (hv : v ≠ []) :
    ∃ s', selects s (vs ++ [v]) = .ok s' ∧ (cancel s' false).line = shown s v ∧
      (cancel s' false).cur = shownCur s v ∧ (cancel s' false).sel = [] :=
  ⟨_, selects_spec s vs v g ok, cancel_false_showing g hv⟩

-- non-vacuity: `ls fi -l`, cursor after `fi`, prefix `fi`, candidates `file` and `find`
example : Good { line := [108, 115, 32, 102, 105, 32, 45, 108], cur := 5, pfx := [102, 105] } :=
  ⟨by decide, by decide, by decide⟩
example : OKv { line := [108, 115, 32, 102, 105, 32, 45, 108], cur := 5, pfx := [102, 105] } [102, 105, 108, 101] :=
  ⟨by decide, by decide⟩
example : (match selects { line := [108, 115, 32, 102, 105, 32, 45, 108], cur := 5, pfx := [102, 105] }
                [[102, 105, 108, 101], [102, 105, 110, 100]] with
    | .ok s => visible s == ([108, 115, 32, 102, 105, 110, 100, 32, 45, 108], 7) &&
               (cancel s true).line == [108, 115, 32, 102, 105, 32, 45, 108] &&
               (cancel s false).line == [108, 115, 32, 102, 105, 110, 100, 32, 45, 108]
    | .error _ => false) = true := by decide +kernel

/-- Tie to the source (regenerated by `rlv-dump` on every run): in internal/completion the virtual
line and cursor are assigned by `insertCandidate` (and `Init`) only, and changed in place by `Cancel`,
`cancelCompletedLine` and `insertCandidate` only — the functions `Model/CompLine` has a definition
for; the REAL line and cursor are changed by `Cancel` and `acceptCandidate` (modelled) and by the four
functions of features outside the model (`CompleteSyntax`: autopairs, `IsearchStop` and
`updateIncrementalSearch`: incremental search, `TrimSuffix`: suffix matchers). Another writer anywhere
in the package breaks this theorem. -/
theorem the_two_lines_are_written_by_these_functions_only :
    Gen.CompFacts.fieldWriters.lookup "compLine" = some ["Engine.insertCandidate", "Init"] ∧
    Gen.CompFacts.fieldWriters.lookup "compCursor" = some ["Engine.insertCandidate", "Init"] ∧
    Gen.CompFacts.changers.lookup "compLine" =
      some ["Engine.Cancel", "Engine.cancelCompletedLine", "Engine.insertCandidate"] ∧
    Gen.CompFacts.changers.lookup "compCursor" =
      some ["Engine.Cancel", "Engine.cancelCompletedLine", "Engine.insertCandidate"] ∧
    Gen.CompFacts.changers.lookup "line" =
      some ["Engine.Cancel", "Engine.CompleteSyntax", "Engine.IsearchStop", "Engine.TrimSuffix",
            "Engine.acceptCandidate", "Engine.updateIncrementalSearch"] ∧
    Gen.CompFacts.changers.lookup "cursor" = Gen.CompFacts.changers.lookup "line" :=
  ⟨rfl, rfl, rfl, rfl, rfl, rfl⟩

end RLV.Props.C14
