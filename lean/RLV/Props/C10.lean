import RLV.Lemmas.HistFile
/-! C10 — File-backed history survives restarts and crashes (property theorems).

`HistFile.writeRec` / `writes` / `openHist` are the models of `fileHistory.Write` and `openHist`
(internal/history/file.go) on the file as a byte list; the JSON codec of `encoding/json` is the
parameter `(enc, dec)` and `strings.TrimSpace` the parameter `trim`. Everything is proved from the
five `CodecLaws` (round trip for the blocks the application can write, no newline or carriage return
inside a record, records non-empty, a record cut short does not decode or gives an empty block), which are
checked against the real library through the real `Write`/`NewHistoryFromFile` on every run (`rlv-crash`,
`codec-law/*`). A crash at byte `k` of an append leaves the first `k` bytes of that append in the
file (append-only file, single `write`). No axioms: the laws are a hypothesis `L`. -/
namespace RLV.Props.C10
open RLV RLV.HistFile

variable {enc : Bytes → Bytes} {dec : Bytes → Option Bytes} {trim : Bytes → Bytes} {V : Bytes → Prop}

/-- Every line successfully written is returned, in order and with the same text (up to
surrounding whitespace), by a history reopened from the same file — whatever characters or length
the lines have (`V`: what the codec round-trips, i.e. valid UTF-8), blank lines being skipped. -/
theorem reopen_roundtrip (L : CodecLaws enc dec V) (ls : List Bytes) (hv : ∀ l ∈ ls, V (trim l)) :
    openHist dec (writes enc trim [] ls) = entries trim ls := by
  rw [openHist_writes L ls hv [], openHist_nil, List.nil_append]

/-- If the process dies at ANY byte `k` of the append of `l`, reopening yields all previously
completed entries in order, followed by `l` itself exactly when all of its record but the final
newline had reached the file. -/
theorem crash_safe (L : CodecLaws enc dec V) (ls : List Bytes) (hv : ∀ l ∈ ls, V (trim l))
    (l : Bytes) (hl : V (trim l)) (hne : trim l ≠ []) (k : Nat) (hk : k ≤ (enc (trim l) ++ [10]).length) :
    openHist dec (writes enc trim [] ls ++ (enc (trim l) ++ [10]).take k) =
      entries trim ls ++ (if (enc (trim l)).length ≤ k then [trim l] else []) := by
  rw [openHist_cut L _ (complete_writes ls [] (Or.inl rfl)) (trim l) hl hne k, reopen_roundtrip L ls hv]

/-- Entries written after reopening are durable again — after a crash at any byte, and in fact
whatever the file contains (torn record, garbage, missing final newline): every further write of
a non-blank line is returned, after what the file gave before, by the next reopening. -/
theorem durable_after_any_damage (L : CodecLaws enc dec V) (g : Bytes) (more : List Bytes)
    (hv : ∀ l ∈ more, V (trim l)) :
    openHist dec (writes enc trim g more) = openHist dec g ++ entries trim more :=
  openHist_writes L more hv g

/-- … in particular after the crash of `crash_safe`. -/
theorem durable_after_crash (L : CodecLaws enc dec V) (ls : List Bytes) (hv : ∀ l ∈ ls, V (trim l))
    (l : Bytes) (hl : V (trim l)) (hne : trim l ≠ []) (k : Nat) (hk : k ≤ (enc (trim l) ++ [10]).length)
    (more : List Bytes) (hm : ∀ l ∈ more, V (trim l)) :
    openHist dec (writes enc trim (writes enc trim [] ls ++ (enc (trim l) ++ [10]).take k) more) =
      entries trim ls ++ (if (enc (trim l)).length ≤ k then [trim l] else []) ++ entries trim more := by
  rw [durable_after_any_damage L _ more hm, crash_safe L ls hv l hl hne k hk]

-- a toy codec (a record is the block between two brackets; `toyV`: no bracket, newline or carriage return in the block)
-- and one round trip through it; that it satisfies `CodecLaws` is not proved
def toyEnc (b : Bytes) : Bytes := [91] ++ b ++ [93]
def toyDec (p : Bytes) : Option Bytes :=
  if p.head? = some 91 ∧ p.getLast? = some 93 ∧ 2 ≤ p.length then some ((p.drop 1).dropLast) else none
def toyV (b : Bytes) : Prop := 10 ∉ b ∧ 13 ∉ b ∧ 93 ∉ b
example : toyV [104, 105] ∧ toyDec (toyEnc [104, 105]) = some [104, 105] := by
  refine ⟨⟨by decide, by decide, by decide⟩, by decide⟩

end RLV.Props.C10
