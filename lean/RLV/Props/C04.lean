import RLV.Lemmas.RefreshRun
/-! C04 — The terminal shows exactly the buffer, cursor on the right cell (property theorems).

`Disp.refresh` is the model of `display.Engine.Refresh` (internal/display/engine.go, with
`core.DisplayLine`, `CoordinatesLine`, `CoordinatesCursor`, `strutil.LineSpan`): the token stream it
writes — the prompt, the line, relative cursor moves, erasures. `Term.run` is the terminal model of
Model/TermRun.lean (VT100 deferred wrap, erasure from the cursor cell). Both are compared on every run
with real Readline sessions: the tokens written by the real redisplay, and the screen and cursor of
two independent VT emulators fed with the real output (`rlv-diff -model refreshsess`, multi-line
buffers and earlier frames included), which also carries two oracles on the real code alone: no
remnants of the earlier frame, every line of the buffer whole on the screen.

The two redisplay theorems are `…_partial` with respect to the property: double-width and combining glyphs,
scrolling at the bottom of the screen, the column-mark options and the redisplay right after clear-screen
(`primaryPrinted = true`) are decided by the differential and the session oracle only. -/
namespace RLV.Props.C04
open RLV RLV.Disp RLV.Term

/-- C04 (one-line buffers, width-1 glyphs). For EVERY width, prompt narrower than the terminal, buffer without
newline, cursor position, screen row (`r0` is the row of the prompt, `prevRow` the row offset the cursor had in
the previous frame) and WHATEVER was on the screen before: after the redisplay the screen shows the prompt
followed by the buffer, wrapped at the width, from the row of the prompt on; every cell after the text is blank
to the end of the screen (no remnants); the cells above the prompt are untouched; and the terminal cursor is on
the cell of the buffer's cursor position, no wrap pending — lines that exactly fill a row included. -/
theorem redisplay_shows_exactly_the_buffer_partial (w : Nat) (prompt sec l : List Nat)
    (pos prevRow r0 : Nat) (t : Term)
    (hw : t.w = w) (hwf : t.WF) (hy : t.y = r0 + prevRow)
    (hnl : 10 ∉ l) (hpos : pos ≤ l.length) (hpr : prompt.length < w) :
    let t' := t.run (refresh w prompt sec prevRow false l pos)
    (∀ r c, c < w → t'.cell r c =
        if r * w + c < r0 * w then t.cell r c
        else if r * w + c < r0 * w + (prompt.length + l.length) then
          (prompt ++ l).getD (r * w + c - r0 * w) 0
        else blank) ∧
    t'.x = (prompt.length + pos) % w ∧ t'.y = r0 + (prompt.length + pos) / w ∧ t'.pw = false := by
  intro t'
  have hfree : ∀ ln ∈ [l], 10 ∉ ln := List.forall_mem_singleton.mpr hnl
  obtain ⟨hc, a⟩ := refresh_lines w prompt sec l [] 0 pos prevRow r0 t hw hwf hy hfree Nat.zero_lt_one hpos hpr
  have hcc := coordsCursor_lines w prompt.length [l] 0 pos hfree Nat.zero_lt_one hpos
  simp only [List.take_zero, List.map_nil, List.sum_nil, Nat.zero_add, rowsOfLines, joinNL] at hc a hcc
  rw [hcc, Nat.add_comm pos] at a
  refine ⟨fun r c hcw => ?_, a.x, a.y, a.pw⟩
  rw [hc r c hcw, frame_nil (by omega)]
  split
  · rfl
  · exact ite_cond_congr (propext (by omega))

-- non-vacuity: a line that exactly fills the row (width 6, prompt "> ", buffer "abcd", cursor at the
-- end) redisplayed over a frame of rubbish: the text is whole, the cell after it is blank, and the cursor
-- is on the first cell of the next row
example :
    let t : Term := { w := 6, cell := fun _ _ => 63, x := 3, y := 1, pw := false }
    let t' := t.run (refresh 6 [62, 32] [9492, 32] 1 false [97, 98, 99, 100] 4)
    (t'.cell 0 5 = 100 ∧ t'.cell 1 0 = blank ∧ t'.cell 2 3 = blank) ∧ (t'.x, t'.y, t'.pw) = (0, 1, false) := by
  decide

/-- C04 (buffers of two lines or more, width-1 glyphs, default configuration: no column marks). The buffer is
`first`, then the lines `rest` (any number, empty ones included, none containing a newline), joined by newlines; the
cursor is in line `k` at offset `o`; `r0` is the row of the prompt, `prevRow` the row offset the cursor had in the
previous frame, `t` ANY screen. After the redisplay the screen shows `Disp.frameCell` from the row of the prompt on —
the prompt and the first line, every other line on rows of its own from the indentation of the prompt on, wrapped at
the width, the secondary prompt in the indentation of the last line when it fits, blanks everywhere else down to the
end of the screen — the cells above the prompt are untouched, and the terminal cursor is on the cell of the buffer
position (`spanRows w prompt.length 0 …`: the rows taken by the lines before line `k`, laid out from the indentation
of the prompt, the first row not counted). `last` and `hlast` play no part. -/
theorem redisplay_shows_exactly_the_lines_partial (w : Nat) (prompt sec first last : List Nat)
    (rest : List (List Nat)) (k o prevRow r0 : Nat) (t : Term)
    (hw : t.w = w) (hwf : t.WF) (hy : t.y = r0 + prevRow)
    (hrest : rest ≠ []) (hfree : ∀ ln ∈ first :: rest, 10 ∉ ln) (hlast : rest.getLast? = some last)
    (hk : k < (first :: rest).length) (ho : o ≤ ((first :: rest).getD k []).length) (hpr : prompt.length < w) :
    let t' := t.run (refresh w prompt sec prevRow false (joinNL (first :: rest))
      (((((first :: rest).take k).map List.length).map (· + 1)).sum + o))
    (∀ r c, c < w → t'.cell r c =
        if r * w + c < r0 * w then t.cell r c else frameCell w prompt sec first rest (r * w + c - r0 * w)) ∧
    t'.x = (o + prompt.length) % w ∧
    t'.y = r0 + (spanRows w prompt.length 0 (((first :: rest).take k).map List.length) +
              ((o + prompt.length) / w + (if k ≠ 0 then 1 else 0))) ∧
    t'.pw = false := by
  obtain ⟨hc, a⟩ := refresh_lines w prompt sec first rest k o prevRow r0 t hw hwf hy hfree hk ho hpr
  rw [coordsCursor_join w prompt.length (first :: rest) k o (List.cons_ne_nil _ _) hfree hk ho] at a
  exact ⟨fun r c hcw => by rw [hc r c hcw, frame_eq_frameCell hrest], a.x, a.y, a.pw⟩

/-- every buffer is made of its lines: the two theorems together speak of every buffer of width-1 glyphs -/
theorem every_buffer_is_lines_joined (l : List Nat) :
    ∃ ls, ls ≠ [] ∧ (∀ ln ∈ ls, 10 ∉ ln) ∧ joinNL ls = l := by
  induction l with
  | nil => exact ⟨[[]], List.cons_ne_nil _ _, List.forall_mem_singleton.mpr List.not_mem_nil, rfl⟩
  | cons c l ih =>
    obtain ⟨ls, hne, hfree, rfl⟩ := ih
    obtain ⟨a, t, rfl⟩ := List.exists_cons_of_ne_nil hne
    by_cases hc : c = 10
    · subst hc
      exact ⟨[] :: a :: t, List.cons_ne_nil _ _, List.forall_mem_cons.mpr ⟨List.not_mem_nil, hfree⟩, rfl⟩
    · obtain ⟨ha, ht⟩ := List.forall_mem_cons.mp hfree
      have hca : 10 ∉ c :: a := List.not_mem_cons_of_ne_of_not_mem (Ne.symm hc) ha
      exact ⟨(c :: a) :: t, List.cons_ne_nil _ _, List.forall_mem_cons.mpr ⟨hca, ht⟩, by cases t <;> rfl⟩

-- non-vacuity: width 6, prompt "> ", secondary prompt "└ ", buffer "ab\ncdefgh\ni" with the cursor on
-- the `f` (line 1, offset 3), redisplayed over a screen full of `?` from row 1 (cursor was one row below):
-- the second line wraps, the last line carries the secondary prompt, the rows below are blank
example :
    let t : Term := { w := 6, cell := fun _ _ => 63, x := 3, y := 2, pw := false }
    let t' := t.run (refresh 6 [62, 32] [9492, 32] 1 false
      (joinNL [[97, 98], [99, 100, 101, 102, 103, 104], [105]]) (3 + 3))
    ((List.range 6).map fun r => (List.range 6).map fun c => t'.cell r c) =
      [[63, 63, 63, 63, 63, 63], [62, 32, 97, 98, 32, 32], [32, 32, 99, 100, 101, 102],
       [103, 104, 32, 32, 32, 32], [9492, 32, 105, 32, 32, 32], [32, 32, 32, 32, 32, 32]] ∧
    (t'.x, t'.y, t'.pw) = (5, 2, false) := by
  decide

end RLV.Props.C04
