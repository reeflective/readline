import RLV.Lemmas.Undo
/-! C07 — Undo walks back through real earlier states (property theorems).

`Hist.save`, `Hist.undo`, `Hist.redo` are the models of `Sources.Save`, `Undo`, `Redo`
(internal/history/undo.go; the per-line undo histories keyed by history position), compared with the
real `history.Sources` on random command sequences on every run (`rlv-diff -model undo|walk`).

The full statement of C07 does not hold on this tree: typed characters are never saved by
themselves, `redo` steps by one item where `undo` skips equal ones, and a typed change after an undo
leaves the undone states in place (KNOWN FINDINGS, DESIGN.md 0.6: the undo stack would have to be
redesigned). What is proved, for EVERY sequence of edits, saves, skip-saves, undos and redos, is the
first clause: whatever `undo` or `redo` put in the buffer is a text that was in the buffer at an
earlier `Save` for that line — never a mixture, never something invented, and the saved states
themselves are only ever dropped, never altered. -/
namespace RLV.Props.C07
open RLV.Core RLV.Hist

/-- what a command can do to the undo machinery: replace the buffer (any edit), save, undo, redo,
ask the next save to be skipped -/
inductive Op where
  | edit (l : List Nat) (pos : Int)
  | save | undo | redo | skipSave
deriving Repr

def step (s : St) : Op → G St
  | .edit l p => .ok { s with line := l, cur := ⟨p, -1⟩ }
  | .save => Hist.save s
  | .undo => Hist.undo s
  | .redo => Hist.redo s
  | .skipSave => .ok { s with skip := true }

/-- the log of texts at which `Save` was invoked -/
def savedAfter (s : St) (saved : List (List Nat)) : Op → List (List Nat)
  | .save => s.line :: saved
  | _ => saved

def run : St → List (List Nat) → List Op → G (St × List (List Nat))
  | s, saved, [] => .ok (s, saved)
  | s, saved, op :: ops =>
    match step s op with
    | .error e => .error e
    | .ok s' => run s' (savedAfter s saved op) ops

/-- invariant: every text in the undo histories was the buffer at some earlier save -/
def Inv (s : St) (saved : List (List Nat)) : Prop := ∀ l ∈ allLines s, l ∈ saved

theorem step_inv (s s' : St) (saved : List (List Nat)) (op : Op) (hi : Inv s saved)
    (hs : step s op = .ok s') :
    Inv s' (savedAfter s saved op) ∧
    (match op with
      | .undo | .redo => s'.line = s.line ∨ s'.line ∈ saved
      | _ => True) := by
  have restored : ∀ {t : St}, ((t.line = s.line ∨ t.line ∈ allLines s) ∧ ∀ l ∈ allLines t, l ∈ allLines s) →
      Inv t saved ∧ (t.line = s.line ∨ t.line ∈ saved) :=
    fun h => ⟨fun l hl => hi l (h.2 l hl), h.1.imp id (hi _)⟩
  cases op with
  | edit _ _ | skipSave =>
    cases hs
    exact ⟨hi, trivial⟩
  | save =>
    refine ⟨fun l hl => ?_, trivial⟩
    rcases (save_spec s s' hs).2 l hl with rfl | h
    · exact List.mem_cons_self
    · exact List.mem_cons_of_mem _ (hi l h)
  | undo => exact restored (undo_spec s s' hs)
  | redo => exact restored (redo_spec s s' hs)

/-- C07 (partial): any sequence of commands keeps the invariant (`inv_init`: the fresh line has it). What an undo or
redo then puts in the buffer is the next theorem. -/
theorem undo_from_saved_partial (ops : List Op) : ∀ (s : St) (saved : List (List Nat)) (s' : St) (saved' : List (List Nat)),
    Inv s saved → run s saved ops = .ok (s', saved') → Inv s' saved' := by
  induction ops with
  | nil =>
    intro s saved s' saved' hi hr
    cases hr
    exact hi
  | cons op ops ih =>
    intro s saved s' saved' hi hr
    unfold run at hr
    split at hr
    next => cases hr
    next s1 hs1 => exact ih _ _ _ _ (step_inv s s1 saved op hi hs1).1 hr

/-- One step: an undo or a redo leaves the buffer as it is or puts back a text saved earlier. -/
theorem undo_redo_show_saved_text (s s' : St) (saved : List (List Nat)) (hi : Inv s saved) :
    (Hist.undo s = .ok s' → s'.line = s.line ∨ s'.line ∈ saved) ∧
    (Hist.redo s = .ok s' → s'.line = s.line ∨ s'.line ∈ saved) :=
  ⟨fun h => (step_inv s s' saved .undo hi h).2, fun h => (step_inv s s' saved .redo hi h).2⟩

theorem inv_init : Inv ({} : St) [] := fun _ hl => nomatch hl

-- non-vacuity: a concrete run in which undo changes the buffer back to a saved text
example : (match run {} [] [.edit [97] 1, .save, .edit [97, 98] 2, .save, .undo] with
    | .ok r => r.1.line == [97] && r.2 == [[97, 98], [97]]
    | .error _ => false) = true := by decide

end RLV.Props.C07
