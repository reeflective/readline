import RLV.Lemmas.Cpr
import RLV.Lemmas.StreamLoop
import RLV.Lemmas.NoSpin
/-! C05 — The result does not depend on how the input is chunked or timed.

`dispatch` is the list-level dispatcher of Model/Bind.lean (`dispatchKeys_eq`: it is what `Engine.dispatchKeys` does
on the typed keys), `MLoop.read` the model of `WaitAvailableKeys` appending a read to the key stack,
`Keys.matchedPrefix` of `core.MatchedPrefix` (the keys of a proper prefix are pushed back and the next read is
awaited). Compared with the real code on random chunkings on every run (`rlv-diff -model disp|local|loop`, and
`loopsess` against real Readline calls).

The dispatch theorems hold for EVERY bind table and key sequence: cutting the byte stream anywhere — inside an escape
sequence, inside a multi-key bind — changes neither the commands selected nor the keys given to them. The theorem on
the WHOLE CALL is about the loop model `MLoop.session` in the plain Emacs regime (`MLoop.Plain`: Emacs keymap, no
local keymap or search mode active, no bind macro in the table, keys below 0x80) with commands that only log
(`MLoop.Clog`: the bind run, the keys that called it, whether it accepts the line), for every such bind table, every
starting stack within `Plain` and `Stream.Inv` (typed keys only; keys pushed back are a prefix that a clean dispatch
reports) and every two ways of cutting the same byte stream into reads (empty reads included).

Not proved (decided by sessions; three known findings): the commands that read their own arguments
and the keys fed by macros interleaved with type-ahead; a lone ESC in a local keymap or in the Vi
keymaps (excluded by the property); multi-byte characters cut between reads (C02 theorems and sessions).
The goroutine hand-off of cursor-position reports is outside the model. -/
namespace RLV.Props.C05
open RLV

/-- C05 (dispatch, 1): a completed dispatch is the same whatever follows the keys it consumed. -/
theorem completed_dispatch_ignores_what_follows (tbl : List (Seq × Bind)) :
    ∀ (ks ys read matched : Seq) (pfx : Bool) (p a : Bind) (r : DResult),
      dispatch tbl ks read matched pfx p a = r → r.pfx = false → ks ≠ [] →
      dispatch tbl (ks ++ ys) read matched pfx p a = { r with rest := r.rest ++ ys } := by
  intro ks ys read matched pfx p a r hr hpf hne
  subst hr
  rw [dispatch_append tbl ks ys read matched pfx p a hne]
  simp only [hpf, Bool.false_eq_true, if_false]

/-- C05 (dispatch, 2): after a prefix has been reported (every key consumed), the keys of the next
read are dispatched as if they had arrived together with the first ones. -/
theorem keys_after_a_wait_continue_the_dispatch (tbl : List (Seq × Bind)) :
    ∀ (ks ys read matched : Seq) (pfx : Bool) (p a : Bind) (r : DResult),
      dispatch tbl ks read matched pfx p a = r → r.pfx = true → ks ≠ [] →
      r.rest = [] ∧
      dispatch tbl (ks ++ ys) read matched pfx p a = dispatch tbl ys r.read r.matched true r.prefixed r.bind := by
  intro ks ys read matched pfx p a r hr hpf hne
  subst hr
  rw [dispatch_append tbl ks ys read matched pfx p a hne]
  exact ⟨(dispatch_progress tbl ks read matched pfx p a hne).2 hpf, by simp only [hpf, if_true]⟩

/-- C05 (key stack): the keys of a reported prefix are all pushed back in front of the stack, and the
next `WaitAvailableKeys` appends the next read after them: the dispatcher sees the concatenation. -/
theorem pushed_back_prefix_then_read_is_the_concatenation (k : Keys) (pre c : List Nat) (hp : pre ≠ [])
    (hb : k.buf = []) :
    ({ (k.matchedPrefix pre).beforeRead with buf := (k.matchedPrefix pre).buf ++ c } : Keys).buf = pre ++ c := by
  rw [Keys.matchedPrefix_eq k hp]
  show pre ++ k.buf ++ c = pre ++ c
  rw [hb, List.append_nil]

/-- C05 (cursor reports): keys that arrive in the same read as a cursor position report — typed just
before it or just after it, no ESC byte among the keys on either side (`ha`, `hb`: no arrow key, no Meta key) —
are all kept, in order; the report is taken out whole. (`Cpr.extract` is
the model of `Keys.extractCursorPos`, compared with the real hand-off by `rlv-diff -model cpr`.) -/
theorem keys_sharing_a_read_with_a_cursor_report_are_kept (a b d1 d2 : List Nat)
    (ha : ∀ x ∈ a, x ≠ 0x1b) (hb : ∀ x ∈ b, x ≠ 0x1b) (h1 : d1 ≠ []) (h2 : d2 ≠ [])
    (hd1 : ∀ x ∈ d1, Cpr.isDigit x = true) (hd2 : ∀ x ∈ d2, Cpr.isDigit x = true) :
    Cpr.extract ((a ++ Cpr.report d1 d2 ++ b).length + 1) (a ++ Cpr.report d1 d2 ++ b)
      = (some (Cpr.report d1 d2), a ++ b) :=
  Cpr.keys_around_a_report_are_kept a b d1 d2 ha hb h1 h2 hd1 hd2 _ (Nat.lt_succ_self _)

-- non-vacuity: "ab", the report ESC [ 1 2 ; 3 R, "c"
example : Cpr.extract 20 [97, 98, 27, 91, 49, 50, 59, 51, 82, 99] = (some [27, 91, 49, 50, 59, 51, 82], [97, 98, 99]) := by
  decide

-- non-vacuity: the arrow key ESC [ A bound, delivered as "ESC", "[", "A": a prefix, a prefix, the command
example :
    let tbl : List (Seq × Bind) := [([27, 91, 65], ⟨"previous-history", false⟩), ([97], ⟨"self-insert", false⟩)]
    (dispatch tbl [27] [] [] false Bind.none Bind.none).pfx = true ∧
    (dispatch tbl [27, 91] [] [] false Bind.none Bind.none).pfx = true ∧
    (dispatch tbl [27, 91, 65, 97] [] [] false Bind.none Bind.none).bind.action = "previous-history" ∧
    (dispatch tbl [27, 91, 65, 97] [] [] false Bind.none Bind.none).rest = [97] := by decide

/-- C05 (whole call, plain Emacs regime): two ways of cutting the same bytes into reads give the same
commands, with the same keys, and the same acceptance. `f1`, `f2` are iteration budgets with which both
calls have ended (returned, or blocked in a read at the end of the input): `the_call_ends` provides them from a state
with `MLoop.Good s`. -/
theorem whole_call_does_not_depend_on_the_reads_partial (tbl : List (Seq × Bind)) (acc : Bind → Bool)
    (s : MLoop.LS) (hP : MLoop.Plain tbl s) (hI : Stream.Inv tbl (MLoop.obs s)) (c1 c2 : List (List Nat))
    (h1 : ∀ c ∈ c1, ∀ b ∈ c, b < 0x80) (h2 : ∀ c ∈ c2, ∀ b ∈ c, b < 0x80) (hflat : c1.flatten = c2.flatten)
    (f1 f2 : Nat) (hf1 : (MLoop.session (MLoop.Clog acc) f1 c1 s).2 = true)
    (hf2 : (MLoop.session (MLoop.Clog acc) f2 c2 s).2 = true) :
    (MLoop.session (MLoop.Clog acc) f1 c1 s).1.log = (MLoop.session (MLoop.Clog acc) f2 c2 s).1.log ∧
    (MLoop.session (MLoop.Clog acc) f1 c1 s).1.done = (MLoop.session (MLoop.Clog acc) f2 c2 s).1.done := by
  -- both calls end with the result of the reference run on the same keys
  have k1 := MLoop.session_canon tbl acc f1 c1 s _ hP hI h1 (Prod.ext rfl hf1)
  have k2 := MLoop.session_canon tbl acc f2 c2 s _ hP hI h2 (Prod.ext rfl hf2)
  rw [hflat] at k1
  exact Prod.mk.inj (k1.trans k2.symm)

/-- the logging commands are within what the no-spin theorem of C01 assumes of commands -/
theorem logging_commands_are_well_behaved (acc : Bind → Bool) : MLoop.WB (MLoop.Clog acc) :=
  MLoop.WB.of_eng_eq fun _ _ _ => rfl

/-- so every call on a finite input ends: the budgets of `whole_call_does_not_depend_on_the_reads_partial` exist -/
theorem the_call_ends (acc : Bind → Bool) (chunks : List (List Nat)) (s : MLoop.LS) (hg : MLoop.Good s) :
    ∃ f, (MLoop.session (MLoop.Clog acc) f chunks s).2 = true :=
  MLoop.session_ends (MLoop.Clog acc) (logging_commands_are_well_behaved acc) chunks s hg

-- non-vacuity: the table { ESC [ A ↦ previous-history, a ↦ self-insert, RET ↦ accept-line } and the bytes
-- ESC [ A a RET, delivered at once, byte by byte, and cut inside the escape sequence: the same three
-- commands with the same keys, and the line accepted
def tblEx : List (Seq × Bind) :=
  [([27, 91, 65], ⟨"previous-history", false⟩), ([97], ⟨"self-insert", false⟩), ([13], ⟨"accept-line", false⟩)]
def sEx : MLoop.LS := { eng := { mainTbl := tblEx, registered := ["previous-history", "self-insert", "accept-line"] } }
def accEx (b : Bind) : Bool := b.action == "accept-line"
example : MLoop.Plain tblEx sEx :=
  { ltbl := rfl, isearch := rfl, emacs := rfl, nonInc := rfl, nomk := rfl, htbl := rfl, ne := rfl,
    nomac := by decide, pm := rfl, am := rfl, ascii := by decide }
example : Stream.Inv tblEx (MLoop.obs sEx) := ⟨fun _ => rfl, fun h => by cases h⟩
example :
    let r1 := MLoop.session (MLoop.Clog accEx) 20 [[27, 91, 65, 97, 13]] sEx
    let r2 := MLoop.session (MLoop.Clog accEx) 20 [[27], [91], [65], [97], [13]] sEx
    let r3 := MLoop.session (MLoop.Clog accEx) 20 [[27, 91], [], [65, 97, 13]] sEx
    r1.2 = true ∧ r2.2 = true ∧ r3.2 = true ∧
    r1.1.log = [("previous-history", [27, 91, 65]), ("self-insert", [97]), ("accept-line", [13])] ∧
    r2.1.log = r1.1.log ∧ r3.1.log = r1.1.log ∧ r1.1.done = true ∧ r2.1.done = true ∧ r3.1.done = true := by
  decide +kernel

end RLV.Props.C05
