import RLV.Lemmas.ParseTotal
/-! C12 — Parsing any inputrc text terminates without crashing (property theorems).

`Inputrc.parse` is the model of `inputrc.Parse` / `Parser.Parse` (inputrc/parse.go): bytes → lines
(`bufio.Scanner` with its token limit) → runes → line scanner → `doBind` / `doSet` / `do` → handler
calls, with `$include` served by the handler. It lives in the panic monad: a Go run-time panic
(index or slice out of range, the explicit `panic("unsupported type")`) is the value `.error _`.

*Termination* is by construction: Lean accepts the definitions only because every loop is a
structural recursion — on the line, on the list of lines, and, for files that include themselves or
each other, on the parser's own `$include` budget (`maxIncludeDepth`, the depth at which `do` answers
`ErrIncludeDepth`, inputrc/parse.go). *Crash freedom* is what the theorems below state. -/
namespace RLV.Props.C12
open RLV RLV.Inputrc RLV.Core

/-- Scanning any line — any array of runes whatsoever — yields a token, a parse error value or
"skip": never an out-of-range index or slice. -/
theorem scan_never_panics (line : RS) : ∃ v, scanLine line = .ok v :=
  scanLine_ok line

/-- Parsing ANY byte string, with ANY options, against ANY handler state and ANY inclusion graph
(`H.readFile` may serve files that include themselves or each other, to any depth) returns a
value: the handler state, the list of errors and the returned error. It never panics — provided
the handler's `Get` only answers values of the three kinds the parser documents (bool, string,
int) or nil. -/
theorem parse_total {σ : Type} (H : Handler σ) (hs : H.Supported) (o : Opts) (bytes : List Nat) (h : σ) :
    ∃ r, parse H o bytes h = .ok r :=
  parseD_ok H hs maxIncludeDepth o bytes h

/-- The library's own handler (`inputrc.Config` with bool/string/int variables) is such a handler. -/
theorem config_handler_supported : cfgHandler.Supported := by
  intro h n
  simp only [cfgHandler]
  split <;> exact nofun

/-- … so parsing any text into a `Config` never panics. -/
theorem parse_into_config_total (o : Opts) (bytes : List Nat) (c : Cfg) :
    ∃ r, parse cfgHandler o bytes c = .ok r :=
  parse_total cfgHandler config_handler_supported o bytes c

/-- The hypothesis on the handler is needed, and is the code's own `panic("unsupported type")`:
a handler answering any other dynamic type makes `set name value` panic. -/
theorem unsupported_type_panics :
    let H : Handler Unit := { readFile := fun _ _ => ((), .notExist), do_ := fun _ _ _ => ((), false),
                              set := fun _ _ _ => ((), false), get := fun _ _ => .unsupported,
                              bind := fun _ _ _ _ _ => ((), false) }
    doSet H {} { keymap := str "emacs", conds := [true] } () (str "x") (str "y") = .error (.oob "unsupported type") := by
  rfl

-- A file that includes itself: parsing returns (a value), whatever the budget; and malformed
-- directives are reported as error values.
example : ∀ o c, ∃ r, parse cfgHandler o (str "$include self\nset\n\"unterminated\nControl-: x\n") c = .ok r :=
  fun o c => parse_into_config_total o _ c

end RLV.Props.C12
