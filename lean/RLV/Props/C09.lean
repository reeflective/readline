import RLV.Lemmas.HistCalls
/-! C09 — History navigation and search are faithful and non-destructive (property theorems).

`Hist.walk` is the model of `Sources.Walk` (previous-history, next-history, beginning/end-of-history,
up/down-line-or-history all go through it), `Hist.insertMatch` of `Sources.InsertMatch` with
`Sources.match` underneath (history-search-backward/forward, the substring searches), on a history
source with in-memory semantics (internal/history/sources.go, history.go). Both are compared with
the real `history.Sources` on every run (`rlv-diff -model walk|hsearch`). Entries are rune lists,
`n - hpos` is the index of the entry being shown (`hpos = -1`: the line being typed).

The theorems down to `leaveMain_src`, and `matchLoop_sound`, restate lemmas of `RLV.Hist` under the names DESIGN.md 0.2
lists for C09: below them a short name means the one of this file. -/
namespace RLV.Props.C09
open RLV RLV.Core RLV.Hist

theorem reset_src (s : St) : (reset s).src = s.src := Hist.reset_src s

theorem save_src (s s' : St) (h : save s = .ok s') : s'.src = s.src := by
  obtain ⟨h', rfl, _⟩ := save_one_write h
  rfl

theorem restoreLineBuffer_src (s : St) : (restoreLineBuffer s).src = s.src := (restoreLineBuffer_frame s).src

theorem setLineCursorMatch_src (s : St) (l : List Nat) : (setLineCursorMatch s l).src = s.src :=
  (setLineCursorMatch_frame s l).src

theorem setLineCursorMatch_hpos (s : St) (l : List Nat) : (setLineCursorMatch s l).hpos = s.hpos :=
  Hist.setLineCursorMatch_hpos s l

theorem setLineCursorMatch_line (s : St) (l : List Nat) : (setLineCursorMatch s l).line = l :=
  Hist.setLineCursorMatch_line s l

theorem walkTo_src (s : St) : (walkTo s).src = s.src := (walkTo_spec s).1.src

theorem leaveMain_src (s s' : St) (p : Int) (h : leaveMain s p = .ok s') : s'.src = s.src := by
  rcases leaveMain_cases h with rfl | ⟨t, ht, rfl⟩
  · rfl
  · exact save_src { s with skip := false } t ht

/-- Moving through history never modifies the stored entries. -/
theorem walk_keeps_history (s s' : St) (p : Int) (h : walk s p = .ok s') : s'.src = s.src := by
  rcases walk_cases h with rfl | ⟨_, s1, h1, rfl⟩
  · rfl
  · rw [walkTo_src]
    exact leaveMain_src s s1 p h1

/-- The position stays within a non-empty history (`h0`): never before the line being typed (`-1`), never past
the oldest entry (`n`) — so the entry index `n - hpos` handed to the source is always a valid one
and no command "fails at either end". -/
theorem walkTo_position_in_range (s : St) (h0 : s.src ≠ []) : -1 ≤ (walkTo s).hpos ∧ (walkTo s).hpos ≤ s.src.length := by
  rw [walkTo_hpos]
  split <;> omega

/-- Faithfulness: when the walk lands on a history position `k > 0` whose line has not been edited
(no saved state for it), the buffer is exactly the stored entry at index `n - k`: the entries are
shown in order, most recent first. -/
theorem walkTo_shows_the_entry (s : St) (h1 : 0 < s.hpos) (h2 : s.hpos ≤ s.src.length)
    (hclean : (getLH s (lineKey s)).items = []) :
    (walkTo s).line = s.src.getD ((s.src.length : Int) - s.hpos).toNat [] := by
  have hne : s.src ≠ [] := List.ne_nil_of_length_pos (by omega)
  rw [walkTo_on s h1 hne, setLineCursorMatch_line, Int.min_eq_left h2, ← lineKey_pos s (by omega), hclean]
  rfl

/-- Moving back down to the line being typed restores exactly the text saved when it was left. -/
theorem walkTo_restores_typed_line (s : St) (h0 : s.hpos = 0) (it : UItem)
    (hl : (getLH { s with hpos := -1 } (-1)).items.getLast? = some it) :
    (walkTo s).line = it.line ∧ (walkTo s).hpos = -1 := by
  rw [walkTo_zero s h0, restoreLineBuffer_line, restoreLineBuffer_hpos, hl]
  exact ⟨rfl, rfl⟩

theorem matchLoop_sound (src : List (List Nat)) (hne : src ≠ []) (cline : List Nat) (fwd regex : Bool) :
    ∀ (f : Nat) (p r : Int), matchLoop src cline fwd regex f p = some r →
      0 ≤ r ∧ r < src.length ∧ lineMatches regex (utf8 (src.getD r.toNat [])) cline = true :=
  fun _ _ _ => Hist.matchLoop_sound hne

/-- A search only ever puts in the buffer (a) nothing new, (b) the text saved for the line being
typed — when a forward search runs off the newest entry —, or (c) a STORED ENTRY of which the test of
`Sources.match` (`lineMatches`) holds against the search text. What the test means is said for
history-search-backward/forward only (`prefix_search_means_prefix`), not for the substring searches. -/
theorem search_shows_only_matching_entries (s : St) (mline : List Nat) (mpos : Int) (usePos fwd regex : Bool)
    (hreach : s.src ≠ [] ∨ s.hpos ≤ -1) :   -- with an empty history the position never leaves the typed line
    let s' := insertMatch s mline mpos usePos fwd regex
    s'.line = s.line ∨ s'.line = (restoreLineBuffer s).line ∨
    (∃ r : Int, 0 ≤ r ∧ r < s.src.length ∧ s'.line = s.src.getD r.toNat [] ∧
       lineMatches regex (utf8 (s.src.getD r.toNat [])) (searchText mline mpos) = true) := by
  rcases insertMatch_lands s mline mpos usePos fwd regex hreach with
    ⟨_, h⟩ | ⟨_, h⟩ | ⟨r, ⟨r0, r1⟩, _, h, hm⟩
  · exact h.imp_right Or.inl
  · exact Or.inl h
  · exact Or.inr (Or.inr ⟨r, r0, r1, h, hm⟩)

/-- Searches never modify the stored entries either. -/
theorem search_keeps_history (s : St) (mline : List Nat) (mpos : Int) (usePos fwd regex : Bool) :
    (insertMatch s mline mpos usePos fwd regex).src = s.src :=
  (insertMatch_frame s mline mpos usePos fwd regex).src

/-- the test of history-search-backward/forward (`regex = false`): the search text is a prefix of the entry -/
theorem prefix_search_means_prefix (hist cline : List Nat) (h : lineMatches false hist cline = true) :
    cline.isPrefixOf hist = true := by
  unfold lineMatches at h
  simp only [Bool.false_eq_true, if_false, Bool.not_eq_true', Bool.or_eq_false_iff, Bool.and_eq_false_iff,
    Bool.not_eq_false'] at h
  rcases h.2 with he | hp
  · rw [List.isEmpty_iff.mp he]
    exact List.isPrefixOf_nil_left
  · exact hp

-- non-vacuity: history [one, two, abc] (oldest first), text `t` typed: searching backward shows `two`
example : (insertMatch { src := [[111, 110, 101], [116, 119, 111], [97, 98, 99]] } [116] 1 true false false).line = [116, 119, 111] := by
  decide

/-- C09 over any number of commands and CALLS: a user walks up and down the history, searches it
(history-search-backward/forward, the substring searches: `searchCmd`, matching against the line being
typed as `Sources.getLine` reconstructs it), types on the line being typed, and accepts lines (the typed
one, or a stored entry as it is) — any sequence of these, of any length, from any history. Whenever the
position is on the history, the buffer is EXACTLY the stored entry at that position, counted from the newest
entry of the history as it is now; and the history itself only grew at its end. (`runUnedited` stops at an edit
of a history line: the library keeps such an edit with the line, which is another matter.) `m` is the
history-size limit (−1: none). -/
theorem walking_and_accepting_show_the_stored_entries (m : Int) (src : List (List Nat)) (ops : List HOp) (s : St)
    (h : runUnedited m { src := src } ops = .ok s) :
    (s.hpos = -1 ∨ (1 ≤ s.hpos ∧ s.hpos ≤ s.src.length ∧
      s.line = s.src.getD ((s.src.length : Int) - s.hpos).toNat [])) ∧
    ∃ more, s.src = src ++ more := by
  obtain ⟨i, more, e⟩ := Calls.run_grows m ops { src := src } s (Calls.inv_init src) h
  exact ⟨i.oe, more, e⟩

/-- … and what an accept does to the history in such a session: the accepted line appended at its end, or
nothing (blank line, duplicate of the newest entry, history full) — never anything else, whatever the
position on the history and the per-line edit histories were. -/
theorem accepting_appends_the_line_or_nothing (m : Int) (src : List (List Nat)) (ops : List HOp) (s s' : St)
    (h : runUnedited m { src := src } ops = .ok s) (ha : acceptAndNextCall m s = .ok s') :
    s'.src = s.src ∨ s'.src = s.src ++ [s.line] :=
  (Calls.accept_inv m s s' (Calls.run_grows m ops { src := src } s (Calls.inv_init src) h).1 ha).2

-- non-vacuity with a search: history [ab, b, abc], `a` typed, prefix search backward twice: `abc` then `ab`
example :
    (match runUnedited (-1) { src := [[97, 98], [98], [97, 98, 99]] } [.type 97, .search false false, .search false false] with
      | .ok s => (s.line, s.hpos) | .error _ => ([0], 0)) = ([97, 98], 3) := by
  decide

-- non-vacuity: history [a, b, c]; up, up shows `b`; accept; in the next call up, up shows `b` (the new last entry),
-- then `c`. The second example is the same session with `acceptAndNextCallOld`, which saves the accepted line under the
-- position it was taken from — the position of `c` once the source has grown: there the second `up` shows `b` in
-- place of `c`, and the theorem fails.
example :
    (match runUnedited (-1) { src := [[97], [98], [99]] } [.up, .up, .accept, .up, .up] with
      | .ok s => (s.line, s.hpos, s.src) | .error _ => ([0], 0, [])) = ([99], 2, [[97], [98], [99], [98]]) := by
  decide

example :
    (match (do
        let s ← runUnedited (-1) { src := [[97], [98], [99]] } [.up, .up]
        let s ← acceptAndNextCallOld (-1) s
        let s ← save s
        runUnedited (-1) s [.up, .up] : G St) with
      | .ok s => (s.line, s.hpos) | .error _ => ([0], 0)) = ([98], 2) := by
  decide

end RLV.Props.C09
