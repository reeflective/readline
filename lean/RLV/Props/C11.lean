import RLV.Gen.KeyStack
import RLV.Lemmas.AcceptFrame
/-! C11 — The terminal is restored on every way out of Readline (property theorems).

`Disp.acceptLine` is the model of `display.Engine.AcceptLine` (internal/display/engine.go: the token
stream it writes — relative cursor moves, erasures, the final newline), `Term.run` the terminal model
of Model/TermRun.lean interpreting it. The tokens are compared with what the real `AcceptLine` writes
in real Readline sessions, and the final cursor of `Term.run` with the cursor of two independent
VT emulators fed with the real output (`rlv-diff -model acceptsess`).

The terminal modes and the cursor style are restored by `defer` statements: the theorems about them are
regenerated source facts (what is registered, and in which order); what the deferred calls do to a real
terminal (tcsetattr, `CSI 0 SP q`) is observed by the session oracle (termios compared before and after
every exit path, command panics included). -/
namespace RLV.Props.C11
open RLV RLV.Disp RLV.Term

/-- C11 (cursor): whatever the width, the prompt, the buffer (embedded newlines included) and the cursor
position, `AcceptLine` run with the terminal cursor where the last redisplay left it (the cell `coordsCursor` gives,
rows counted from the row `r0` of the prompt) ends in column 0 of the first row below the input, which takes
`(coordsLine …).2 + 1` rows. -/
theorem accept_leaves_the_cursor_on_a_fresh_row (w : Nat) (prompt l : List Nat) (pos r0 : Nat) (t : Term)
    (hw : t.w = w) (hw0 : 0 < w)
    (hx : t.x = (coordsCursor w l pos prompt.length).1)
    (hy : t.y = r0 + (coordsCursor w l pos prompt.length).2) :
    (t.run (acceptLine w prompt l pos)).x = 0 ∧
    (t.run (acceptLine w prompt l pos)).y = r0 + (coordsLine w l prompt.length).2 + 1 := by
  rw [acceptLine_eq]
  have ⟨p, _⟩ := accept_run w prompt.length _ _ (coordsLine w l prompt.length).2 (coordsLine w l prompt.length).1
    r0 t hw0 ⟨hw, hx, hy⟩
  exact ⟨p.x, p.y⟩

/-- the deferred calls run in the reverse order of their registration -/
def exitSequence (defers : List String) : List String := defers.reverse

/-- C11 (modes, cursor style): on every way out of `Readline` past the prologue — return, error or a
panic going up — the deferred calls run in this order: the resize watcher is stopped, a panic moves
the cursor below the input (`AcceptLine`) before going on, the cursor style is reset, the transient
prompt is redisplayed, and the terminal modes saved by `MakeRaw` are restored last. (Regenerated from
the source of `Shell.Readline` on every run.) -/
theorem what_runs_on_every_way_out :
    exitSequence Gen.KeyStack.readlineDefers =
      ["defer close(resize)",
       "defer func() { if r := recover(); r != nil { rl.Display.AcceptLine() panic(r) } }()",
       "defer fmt.Print(keymap.CursorStyle(\"default\"))",
       "defer rl.Display.RefreshTransient()",
       "defer term.Restore(descriptor, state)"] := rfl

/-- … and the restoration of the modes is registered right after they were changed: the only way out
before it is the failure of `MakeRaw` itself, which changed nothing -/
theorem modes_are_saved_then_their_restoration_deferred :
    Gen.KeyStack.readlinePrologue.take 4 =
      ["descriptor := int(os.Stdin.Fd())",
       "state, err := term.MakeRaw(descriptor)",
       "if err != nil { return \"\", err }",
       "defer term.Restore(descriptor, state)"] := rfl

/-- C11 with C04 (one-line buffers): `AcceptLine` run after a redisplay erases nothing of the input —
every cell of the screen is what the redisplay left (the prompt, the buffer, blanks after it) — and
leaves the cursor at the start of the first row below the input. For EVERY width, prompt narrower than the
terminal, buffer without newline, cursor position, screen row and previous contents of the screen. -/
theorem accepting_after_a_redisplay_keeps_the_line_on_screen_partial (w : Nat) (prompt sec l : List Nat)
    (pos prevRow r0 : Nat) (t : Term)
    (hw : t.w = w) (hwf : t.WF) (hy : t.y = r0 + prevRow)
    (hnl : 10 ∉ l) (hpos : pos ≤ l.length) (hpr : prompt.length < w) :
    let t1 := t.run (refresh w prompt sec prevRow false l pos)
    let t2 := t1.run (acceptLine w prompt l pos)
    (∀ r c, c < w → t2.cell r c = t1.cell r c) ∧ t2.x = 0 ∧
      t2.y = r0 + (prompt.length + l.length) / w + 1 := by
  have hfree : ∀ ln ∈ [l], 10 ∉ ln := List.forall_mem_singleton.mpr hnl
  have h := accept_after_refresh w prompt sec l [] 0 pos prevRow r0 t hw hwf hy hfree Nat.zero_lt_one hpos hpr
  simp only [List.take_zero, List.map_nil, List.sum_nil, Nat.zero_add, joinNL, rowsOfLines, blockRows,
    Nat.add_zero] at h
  rw [Nat.add_comm l.length, ← Nat.add_assoc] at h
  exact h

/-- C11 with C04 (buffers of two lines or more): `AcceptLine` run after a redisplay erases nothing of
the input — every cell is what the redisplay left: the prompt, each line on its rows, the secondary
prompt, blanks — and leaves the cursor at the start of the first row below the last line. For EVERY
width, prompt narrower than the terminal, secondary prompt, lines without newline, cursor line and offset, screen
row and previous contents of the screen. `hrest`, `last` and `hlast` play no part. -/
theorem accepting_after_a_redisplay_keeps_the_lines_on_screen_partial (w : Nat) (prompt sec first last : List Nat)
    (rest : List (List Nat)) (k o prevRow r0 : Nat) (t : Term)
    (hw : t.w = w) (hwf : t.WF) (hy : t.y = r0 + prevRow)
    (hrest : rest ≠ []) (hfree : ∀ ln ∈ first :: rest, 10 ∉ ln) (hlast : rest.getLast? = some last)
    (hk : k < (first :: rest).length) (ho : o ≤ ((first :: rest).getD k []).length) (hpr : prompt.length < w) :
    let pos := ((((first :: rest).take k).map List.length).map (· + 1)).sum + o
    let t1 := t.run (refresh w prompt sec prevRow false (joinNL (first :: rest)) pos)
    let t2 := t1.run (acceptLine w prompt (joinNL (first :: rest)) pos)
    (∀ r c, c < w → t2.cell r c = t1.cell r c) ∧ t2.x = 0 ∧
      t2.y = r0 + (blockRows w prompt.length first + rowsOfLines w prompt.length rest) :=
  accept_after_refresh w prompt sec first rest k o prevRow r0 t hw hwf hy hfree hk ho hpr

-- non-vacuity of the cursor theorem: a buffer of two rows at width 10, cursor in the first row
example :
    let t : Term := { w := 10, cell := fun _ _ => 32, x := 5, y := 3, pw := false }
    (coordsCursor 10 [97, 98, 99, 10, 100] 3 2 = (5, 0)) ∧
    (t.run (acceptLine 10 [62, 32] [97, 98, 99, 10, 100] 3)).x = 0 ∧
    (t.run (acceptLine 10 [62, 32] [97, 98, 99, 10, 100] 3)).y = 3 + 1 + 1 := by decide

-- non-vacuity of the composed theorems: width 6, prompt "> ", buffer "ab\ncdefgh\ni", cursor on the `f`:
-- after the redisplay and AcceptLine the three lines are still there, the cursor is on row 5
example :
    let t : Term := { w := 6, cell := fun _ _ => 63, x := 3, y := 2, pw := false }
    let l := joinNL [[97, 98], [99, 100, 101, 102, 103, 104], [105]]
    let t2 := (t.run (refresh 6 [62, 32] [9492, 32] 1 false l (3 + 3))).run (acceptLine 6 [62, 32] l (3 + 3))
    ((List.range 6).map fun r => (List.range 6).map fun c => t2.cell r c) =
      [[63, 63, 63, 63, 63, 63], [62, 32, 97, 98, 32, 32], [32, 32, 99, 100, 101, 102],
       [103, 104, 32, 32, 32, 32], [9492, 32, 105, 32, 32, 32], [32, 32, 32, 32, 32, 32]] ∧
    (t2.x, t2.y) = (0, 1 + (1 + 3)) := by
  decide

end RLV.Props.C11
