import RLV.Lemmas.GenTables
import RLV.Lemmas.TypedUnicode
/-! C02 — What the user types is what Readline returns.

`Loop.run` is the model of the main loop of `Shell.Readline` (flush, `WaitAvailableKeys`, `MatchMain`
with its multibyte fallback, `self-insert`, `accept-line`) over a list of terminal reads (`chunks`);
`Gen.emacs` / `Gen.vi_insert` are the bind tables dumped from the live `Shell` on every run. -/
namespace RLV.Props.C02
open RLV RLV.Gen RLV.Loop

/-- a fresh shell on a regenerated keymap; `om` = output-meta, `em` = Emacs editing mode flag (`isEmacs`; the keymap
is `tbl`) -/
def sh0 (tbl : List (List Nat × Bind)) (om em : Bool) : Sh :=
  { eng := { mainTbl := norm tbl, isEmacs := em, viInsert := !em, registered := ["self-insert", "accept-line"] },
    outputMeta := om }

theorem tableOK_sh0 {tbl : List (List Nat × Bind)} (h : typedOK (normU tbl) = true) (om em : Bool) :
    TableOK (sh0 tbl om em).eng :=
  tableOK_of_typedOK h _ rfl rfl rfl

theorem typed_ascii_returned_sh0 {tbl : List (List Nat × Bind)} (h : typedOK (normU tbl) = true) (s : List Nat)
    (hs : ∀ b ∈ s, printable b) (chunks : List (List Nat)) (hc : chunks.flatten = s ++ [13]) (om em : Bool) :
    run (s.length + 1 + chunks.length + 1) chunks (sh0 tbl om em) = .ok (some s) := by
  have g : Good (sh0 tbl om em) [] :=
    { tbl := tableOK_sh0 h om em, line := rfl, cur := rfl, hmk := rfl, hmw := rfl, hni := rfl, hli := rfl, hacc := rfl }
  have hlen : chunks.flatten.length = s.length + 1 := by rw [hc, List.length_append, List.length_singleton]
  have hbuf : (sh0 tbl om em).eng.keys.buf.length = 0 := rfl
  refine typed_ascii_returned _ chunks _ [] s g hs hc ?_
  omega

/-- C02 (ASCII) on the regenerated Emacs keymap: whatever the chunking, a line of printable
ASCII typed into a fresh shell and accepted with Return is returned unchanged. -/
theorem typed_ascii_returned_emacs (s : List Nat) (hs : ∀ b ∈ s, printable b)
    (chunks : List (List Nat)) (hc : chunks.flatten = s ++ [13]) (om em : Bool) :
    run (s.length + 1 + chunks.length + 1) chunks (sh0 Gen.emacs om em) = .ok (some s) :=
  typed_ascii_returned_sh0 emacs_typedOK s hs chunks hc om em

/-- the same on the regenerated Vi-insert keymap -/
theorem typed_ascii_returned_viins (s : List Nat) (hs : ∀ b ∈ s, printable b)
    (chunks : List (List Nat)) (hc : chunks.flatten = s ++ [13]) (om em : Bool) :
    run (s.length + 1 + chunks.length + 1) chunks (sh0 Gen.vi_insert om em) = .ok (some s) :=
  typed_ascii_returned_sh0 viins_typedOK s hs chunks hc om em

/-! Any Unicode text. `Typable r`: `r` is printable ASCII, or any rune above 0x7F that has a UTF-8 encoding of
its own (a scalar value: not a surrogate, at most U+10FFFF) other than U+FFFD, the decoder's error value;
`utf8 rs` is the concatenation of the UTF-8 encodings (Go's `string(rs)`). The reads may be cut anywhere:
between characters, inside a character, after the first byte of a character whose first byte also starts a
bound sequence (U+FFFD is bound in the default keymaps, so every character U+F000..U+FFFF begins like a
bind). `om` is `output-meta`: with it off `self-insert` shows the characters U+0080..U+00FF in `^[x`
notation (the property's "usual UTF-8 meta settings" have it on), so they are excluded then;
`convert-meta` is off in `sh0` (with it on the bytes above 0x7F are meta keys, not text). -/

theorem goodU_sh0 (tbl : List (List Nat × Bind)) (om em : Bool) (ht : TableOK (sh0 tbl om em).eng)
    (hh : HighTbl (norm tbl)) : GoodU (sh0 tbl om em) [] :=
  { tbl := ht, high := hh, ins := by cases em <;> rfl, line := rfl, cur := rfl, hmk := rfl, hni := rfl, hli := rfl,
    hpf := rfl, hacc := rfl }

theorem typed_unicode_returned_sh0 {tbl : List (List Nat × Bind)} (h : typedOK (normU tbl) = true) (rs : List Nat)
    (hrs : ∀ r ∈ rs, Typable r) (chunks : List (List Nat)) (hc : chunks.flatten = utf8 rs ++ [13]) (om em : Bool)
    (hom : om = true ∨ ∀ r ∈ rs, ¬ (0x80 ≤ r ∧ r ≤ 0xff)) :
    run (2 * (chunks.flatten.length + chunks.length) + 2) chunks (sh0 tbl om em) = .ok (some rs) := by
  have g := goodU_sh0 tbl om em (tableOK_sh0 h om em) (typedOK_sound (norm_perm tbl) h).1
  have hnr : needRead (sh0 tbl om em).eng.keys = true := rfl
  have hbuf : (sh0 tbl om em).eng.keys.buf.length = 0 := rfl
  refine typed_unicode_returned _ chunks _ [] rs g hrs hom hc nofun ?_
  rw [if_pos hnr, hbuf]
  omega

/-- C02 on the regenerated Emacs keymap: whatever the text and however its bytes are cut into reads, a line
of typable characters typed into a fresh shell and accepted with Return is returned unchanged. -/
theorem typed_unicode_returned_emacs (rs : List Nat) (hrs : ∀ r ∈ rs, Typable r)
    (chunks : List (List Nat)) (hc : chunks.flatten = utf8 rs ++ [13]) (om em : Bool)
    (hom : om = true ∨ ∀ r ∈ rs, ¬ (0x80 ≤ r ∧ r ≤ 0xff)) :
    run (2 * (chunks.flatten.length + chunks.length) + 2) chunks (sh0 Gen.emacs om em) = .ok (some rs) :=
  typed_unicode_returned_sh0 emacs_typedOK rs hrs chunks hc om em hom

/-- the same on the regenerated Vi-insert keymap -/
theorem typed_unicode_returned_viins (rs : List Nat) (hrs : ∀ r ∈ rs, Typable r)
    (chunks : List (List Nat)) (hc : chunks.flatten = utf8 rs ++ [13]) (om em : Bool)
    (hom : om = true ∨ ∀ r ∈ rs, ¬ (0x80 ≤ r ∧ r ≤ 0xff)) :
    run (2 * (chunks.flatten.length + chunks.length) + 2) chunks (sh0 Gen.vi_insert om em) = .ok (some rs) :=
  typed_unicode_returned_sh0 viins_typedOK rs hrs chunks hc om em hom

/-- Go's UTF-8 decoder applied to Go's UTF-8 encoder is the identity on valid runes, whatever bytes follow
(the model of unicode/utf8 the theorems above stand on). -/
theorem utf8_decode_encode (r : Nat) (hv : ValidRune r) (rest : List Nat) :
    decodeRune (encodeRune r ++ rest) = (r, (encodeRune r).length) :=
  decodeRune_encodeRune r hv rest

-- non-vacuity: "é中😀!" (2, 3 and 4 bytes, and ASCII) is typable; its bytes cut inside each character
theorem sample_typable : ∀ r ∈ [0xe9, 0x4e2d, 0x1f600, 0x21], Typable r := by
  unfold Typable printable ValidRune
  decide
-- the theorem instantiated on that script
example :=
  typed_unicode_returned_emacs [0xe9, 0x4e2d, 0x1f600, 0x21] sample_typable
    [[0xc3], [0xa9, 0xe4, 0xb8], [0xad, 0xf0], [0x9f, 0x98], [0x80, 0x21, 13]] (by decide) true true (Or.inl rfl)

-- non-vacuity: the hypotheses are met by a concrete script in three reads, cut inside the text
example : (∀ b ∈ [104, 105, 32, 33], printable b) ∧
    [[104, 105], [32], [33, 13]].flatten = [104, 105, 32, 33] ++ [13] := by
  unfold printable
  decide

end RLV.Props.C02
