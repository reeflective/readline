namespace RLV

/-- `inputrc.Bind` (inputrc/config.go); `action = ""`: no bind -/
structure Bind where
  action : String
  isMacro : Bool
deriving DecidableEq, Repr, Inhabited

def Bind.none : Bind := ⟨"", false⟩

/-- a key sequence: the bytes the dispatcher reads (`[]byte`) -/
abbrev Seq := List Nat

/-- One pass of `matchBind`: last exact match (or none) and whether a longer bind has `keys` as prefix. -/
def matchBind (keys : Seq) (tbl : List (Seq × Bind)) : Bind × Bool :=
  tbl.foldl (fun acc e =>
    (if keys = e.1 then e.2 else acc.1,
     acc.2 || (decide (keys.length < e.1.length) && keys.isPrefixOf e.1))) (Bind.none, false)

/-- what `dispatch` returns: the bind selected (on a prefix, the `active` bind it was given), whether the keys read
are only a proper prefix of binds, the keys read, those among them that count as matched, the keys not read, and
the shorter bind remembered on the way -/
structure DResult where
  bind : Bind
  pfx : Bool
  read : Seq
  matched : Seq
  rest : Seq
  prefixed : Bind
deriving DecidableEq, Repr

/-- The loop of `(*Engine).dispatchKeys` (internal/keymap/dispatch.go) as a function of the list `ks` of keys waiting,
not of the key stack (`dispatchKeys` of Model/Keys.lean is the same loop on the stack; Lemmas/DispatchKeys ties the
two). `read`, `matched`, `pfx` are the loop's variables; `prefixed` and `active` are the two binds the engine keeps
between calls: the shorter bind remembered while longer ones are still possible, and the bind last selected. -/
def dispatch (tbl : List (Seq × Bind)) :
    (ks read matched : Seq) → (pfx : Bool) → (prefixed active : Bind) → DResult
  | [], read, matched, pfx, prefixed, active => ⟨active, pfx, read, matched, [], prefixed⟩
  | k :: ks, read, matched, _, prefixed, active =>
    let read' := read ++ [k]
    let r := matchBind read' tbl
    if r.1.action = "" ∧ r.2 = false then
      ⟨prefixed, false, read', matched, ks, Bind.none⟩
    else if r.2 then
      dispatch tbl ks read' (matched ++ [k]) true (if r.1.action ≠ "" then r.1 else prefixed) active
    else ⟨r.1, false, read', matched ++ [k], ks, Bind.none⟩

/-- some sequence of the table is strictly longer than `keys` and starts with them (what `matchBind` returns as
its non-empty list of prefixed binds) -/
def hasProperExt (keys : Seq) (tbl : List (Seq × Bind)) : Bool :=
  tbl.any (fun e => decide (keys.length < e.1.length) && keys.isPrefixOf e.1)

/-- what `matchBind` returns as its match: the bind of the last entry that is exactly `keys` -/
def lastExact (keys : Seq) (tbl : List (Seq × Bind)) : Bind :=
  tbl.foldl (fun acc e => if keys = e.1 then e.2 else acc) Bind.none

end RLV
