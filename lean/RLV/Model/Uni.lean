import RLV.Gen.Unicode
/-! Go's `unicode.IsSpace`, `IsPunct`, `IsPrint`, `IsControl`, `IsLetter`, `IsUpper`, `IsLower`, `ToUpper`, `ToLower`
over the range and delta tables of `Gen/Unicode`, which are printed from the Go toolchain in use at every run. -/
namespace RLV.Uni
open RLV.Gen.Unicode

def inRanges : List (Nat × Nat) → Nat → Bool
  | [], _ => false
  | (lo, hi) :: rest, c => (lo ≤ c && c ≤ hi) || inRanges rest c

def applyDelta : List (Nat × Nat × Int) → Nat → Nat
  | [], c => c
  | (lo, hi, d) :: rest, c => if lo ≤ c ∧ c ≤ hi then ((c : Int) + d).toNat else applyDelta rest c

def isSpace (c : Nat) : Bool := inRanges isSpaceRanges c
def isPunct (c : Nat) : Bool := inRanges isPunctRanges c
def isPrint (c : Nat) : Bool := inRanges isPrintRanges c
def isControl (c : Nat) : Bool := inRanges isControlRanges c
def isLetter (c : Nat) : Bool := inRanges isLetterRanges c
def isUpper (c : Nat) : Bool := inRanges isUpperRanges c
def isLower (c : Nat) : Bool := inRanges isLowerRanges c
def toUpper (c : Nat) : Nat := applyDelta toUpperDeltas c
def toLower (c : Nat) : Nat := applyDelta toLowerDeltas c

/-- No order on the rows is assumed. Facts about the low codes are evaluated on the few rows the filter leaves:
the kernel reduces the closed term `l.filter _` once and finds it reduced at every later code. -/
theorem inRanges_filter (n : Nat) (l : List (Nat × Nat)) (c : Nat) (h : c < n) :
    inRanges l c = inRanges (l.filter fun e => e.1 < n) c := by
  induction l with
  | nil => rfl
  | cons e l ih =>
    obtain ⟨lo, hi⟩ := e
    by_cases hlo : lo < n
    · rw [List.filter_cons, if_pos (decide_eq_true hlo), inRanges, inRanges, ih]
    · have hc : ¬ lo ≤ c := by omega
      rw [List.filter_cons, if_neg (mt of_decide_eq_true hlo), inRanges, ih, decide_eq_false hc]
      rfl

theorem applyDelta_filter (n : Nat) (l : List (Nat × Nat × Int)) (c : Nat) (h : c < n) :
    applyDelta l c = applyDelta (l.filter fun e => e.1 < n) c := by
  induction l with
  | nil => rfl
  | cons e l ih =>
    obtain ⟨lo, hi, d⟩ := e
    by_cases hlo : lo < n
    · rw [List.filter_cons, if_pos (decide_eq_true hlo), applyDelta, applyDelta, ih]
    · rw [List.filter_cons, if_neg (mt of_decide_eq_true hlo), applyDelta, if_neg (by omega), ih]

-- Two facts about the ASCII part of the printed tables, evaluated at every build. No proof uses them: they fail
-- when the generator prints something else.
theorem space_ascii : ∀ c, c < 128 → (isSpace c = (c = 32 ∨ (9 ≤ c ∧ c ≤ 13))) := by decide +kernel
theorem upper_lower_ascii : ∀ c, c < 128 → toLower (toUpper c) = toLower c := by
  -- on the rows that can apply: the upper case of an ASCII code is ASCII, so the same rows lower it again
  have low : ∀ c, c < 128 →
      applyDelta (toUpperDeltas.filter fun e => e.1 < 128) c < 128 ∧
      applyDelta (toLowerDeltas.filter fun e => e.1 < 128)
          (applyDelta (toUpperDeltas.filter fun e => e.1 < 128) c) =
        applyDelta (toLowerDeltas.filter fun e => e.1 < 128) c := by decide +kernel
  intro c hc
  obtain ⟨hu, h⟩ := low c hc
  rw [toUpper, applyDelta_filter 128 toUpperDeltas c hc, toLower, toLower,
    applyDelta_filter 128 toLowerDeltas _ hu, h, ← applyDelta_filter 128 toLowerDeltas c hc]
#eval (isSpace 0x3000, isPunct 33, toUpper 97, toLower 0x130, isLetter 0xe9)
end RLV.Uni
