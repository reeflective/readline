import RLV.Model.Uni
/-! `inputrc.escape` / `inputrc.unescapeRunes` (inputrc/inputrc.go, inputrc/parse.go). Runes are `Nat`s. -/
namespace RLV.Esc

def bs : Nat := 0x5c

/-- `grab(r, i, end)` with `end = len(r)`: the rune at `i`, NUL beyond the end -/
def grab (r : List Nat) (i : Nat) : Nat := r.getD i 0

def octDigit (c : Nat) : Bool := 0x30 ≤ c && c ≤ 0x37
def hexDigit (c : Nat) : Bool :=
  (0x30 ≤ c && c ≤ 0x39) || (0x41 ≤ c && c ≤ 0x46) || (0x61 ≤ c && c ≤ 0x66)
def hexVal (c : Nat) : Nat :=
  if 0x61 ≤ c && c ≤ 0x66 then c - 0x61 + 10
  else if 0x41 ≤ c && c ≤ 0x46 then c - 0x41 + 10
  else c - 0x30

/-- `unicode.ToUpper` below 0x100, written out (tied to the generated table by `toUpperLo_gen`) -/
def toUpperLo (c : Nat) : Nat :=
  if 0x61 ≤ c && c ≤ 0x7a then c - 32
  else if c == 0xb5 then 0x39c
  else if (0xe0 ≤ c && c ≤ 0xfe) && c != 0xf7 then c - 32
  else if c == 0xff then 0x178 else c

/-- `unicode.ToUpper`: written out below 0x100, the generated table above -/
def toUpper (c : Nat) : Nat := if c < 256 then toUpperLo c else Uni.toUpper c

def encontrol (c : Nat) : Nat := (toUpper c) &&& 0x1f
def enmeta (c : Nat) : Nat := c ||| 0x80

/-- `simpleEscape`: the character a backslash followed by `c` stands for (one-letter escapes, escaped
backslash and quotes), 0 otherwise -/
def simpleEsc (c : Nat) : Nat :=
  if c = 0x61 then 7 else if c = 0x62 then 8 else if c = 0x64 then 0x7f else if c = 0x65 then 0x1b
  else if c = 0x66 then 12 else if c = 0x6e then 10 else if c = 0x72 then 13 else if c = 0x74 then 9
  else if c = 0x76 then 11 else if c = bs ∨ c = 0x22 ∨ c = 0x27 then c else 0

/-- The `switch` of `unescapeRunes` on a backslash at the head of `r`: the runes it appends, and the number of
runes it consumes AFTER the backslash (the case's `i += k`; the loop's own `i++` takes the backslash). -/
def escStep (r : List Nat) : List Nat × Nat :=
  let c1 := grab r 1; let c2 := grab r 2; let c3 := grab r 3
  let c4 := grab r 4; let c5 := grab r 5
  if c1 = 0x61 then ([7], 1)
  else if c1 = 0x62 then ([8], 1)
  else if c1 = 0x64 then ([0x7f], 1)
  else if c1 = 0x65 then ([0x1b], 1)
  else if c1 = 0x66 then ([12], 1)
  else if c1 = 0x6e then ([10], 1)
  else if c1 = 0x72 then ([13], 1)
  else if c1 = 0x74 then ([9], 1)
  else if c1 = 0x76 then ([11], 1)
  else if c1 = bs ∨ c1 = 0x22 ∨ c1 = 0x27 then ([c1], 1)
  else if c1 = 0x78 ∧ hexDigit c2 ∧ hexDigit c3 then ([hexVal c2 * 16 ||| hexVal c3], 3)
  else if c1 = 0x78 ∧ hexDigit c2 then ([hexVal c2], 2)
  else if octDigit c1 ∧ octDigit c2 ∧ octDigit c3 then
    ([((c1 - 0x30) <<< 6) ||| ((c2 - 0x30) <<< 3) ||| (c3 - 0x30)], 3)
  else if octDigit c1 ∧ octDigit c2 then ([((c1 - 0x30) <<< 3) ||| (c2 - 0x30)], 2)
  else if octDigit c1 then ([c1 - 0x30], 1)
  else if ((c1 = 0x43 ∧ c4 = 0x4d) ∨ (c1 = 0x4d ∧ c4 = 0x43)) ∧ c2 = 0x2d ∧ c3 = bs ∧ c5 = 0x2d then
    let c6 := grab r 6
    (if c6 ≠ 0 then [0x1b, encontrol c6] else [], 6)
  else if c1 = 0x43 ∧ c2 = 0x2d ∧ c3 = bs ∧ simpleEsc c4 ≠ 0 then ([encontrol (simpleEsc c4)], 4)
  else if c1 = 0x43 ∧ c2 = 0x2d then
    (if c3 = 0x3f then [0x7f] else [encontrol c3], 3)
  else if c1 = 0x4d ∧ c2 = 0x2d ∧ c3 = bs ∧ simpleEsc c4 ≠ 0 then ([enmeta (simpleEsc c4)], 4)
  else if c1 = 0x4d ∧ c2 = 0x2d then
    if c3 = 0 then ([0x1b], 2) else ([enmeta c3], 3)
  else ([c1], 1)

/-- The loop of `unescapeRunes` over the rest `r[i:end]` of the slice. The fuel is there for the structural
recursion only (a step may drop several runes): any fuel `≥` the length gives the same (`unescF_fuel`). -/
def unescF : Nat → List Nat → List Nat
  | 0, _ => []
  | _, [] => []
  | n+1, c :: t =>
    if c = bs then
      let s := escStep (c :: t)
      s.1 ++ unescF n (t.drop s.2)
    else c :: unescF n t

def unescape (r : List Nat) : List Nat :=
  if r.length = 1 then r else unescF r.length r

/-- `unicode.IsPrint` below 0x100, written out (tied to the generated table by `isPrintLo_gen`) -/
def isPrintLo (c : Nat) : Bool :=
  (0x20 ≤ c && c ≤ 0x7e) || (0xa1 ≤ c && c ≤ 0xac) || (0xae ≤ c && c ≤ 0xff)

def hexChar (n : Nat) : Nat := if n < 10 then 0x30 + n else 0x61 + (n - 10)

/-- `needsHex`: the codes below 256 with no notation that reads back unambiguously (`\C-\`; meta of a
non-printable, a backslash or a quote), written `\xHH` -/
def needsHex (c : Nat) : Bool :=
  c == 0x1c ||
  ((0x80 ≤ c && c ≤ 0xff) &&
    (let d := c - 0x80; !isPrintLo d || d == bs || d == 0x22 || d == 0x27))

/-- lowercase hexadecimal digits of `n` (`%x`), most significant first -/
def hexDigitsAux : Nat → Nat → List Nat → List Nat
  | 0, _, acc => acc
  | f+1, n, acc => if n < 16 then hexChar n :: acc else hexDigitsAux f (n / 16) (hexChar (n % 16) :: acc)
def hexDigits (n : Nat) : List Nat := hexDigitsAux 8 n []

/-- one rune of `escape` (macro = `EscapeMacro`), for c ≤ 0xff or printable -/
def escape1 (mac : Bool) (c : Nat) : List Nat :=
  if c = 7 then [bs, 0x61] else if c = 8 then [bs, 0x62]
  else if c = 0x7f then (if mac then [bs, 0x64] else [bs, 0x43, 0x2d, 0x3f])
  else if c = 0x1b then [bs, 0x65] else if c = 12 then [bs, 0x66] else if c = 10 then [bs, 0x6e]
  else if c = 13 then (if mac then [bs, 0x72] else [bs, 0x43, 0x2d, 0x4d])
  else if c = 9 then [bs, 0x74] else if c = 11 then [bs, 0x76]
  else if c = bs ∨ c = 0x22 ∨ c = 0x27 then [bs, c]
  else if needsHex c then [bs, 0x78, hexChar (c / 16), hexChar (c % 16)]
  else if c < 0x20 then [bs, 0x43, 0x2d, toUpper (c ||| 0x40)]
  else if 0x80 ≤ c ∧ c ≤ 0xff then [bs, 0x4d, 0x2d, c - 0x80]
  else if c < 256 ∨ Uni.isPrint c then [c]
  else bs :: 0x78 :: hexDigits c          -- `\x%2x`: at least three digits above 0xff

def escape (mac : Bool) (s : List Nat) : List Nat := s.flatMap (escape1 mac)

/-- the written-out Latin-1 tables are the toolchain's (regenerated every run) -/
theorem toUpperLo_gen : ∀ c, c < 256 → toUpperLo c = Uni.toUpper c := by
  have low : ∀ c, c < 256 →
      toUpperLo c = Uni.applyDelta (Gen.Unicode.toUpperDeltas.filter fun e => e.1 < 256) c := by
    decide +kernel
  intro c hc
  rw [low c hc, Uni.toUpper, ← Uni.applyDelta_filter 256 _ c hc]
theorem isPrintLo_gen : ∀ c, c < 256 → isPrintLo c = Uni.isPrint c := by
  have low : ∀ c, c < 256 →
      isPrintLo c = Uni.inRanges (Gen.Unicode.isPrintRanges.filter fun e => e.1 < 256) c := by
    decide +kernel
  intro c hc
  rw [low c hc, Uni.isPrint, ← Uni.inRanges_filter 256 _ c hc]

end RLV.Esc
