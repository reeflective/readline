import RLV.Model.Term
import RLV.Model.Disp
/-! The terminal model running the output tokens of the display engine (Model/Disp.lean): cursor
movements clamp at the edges and clear the pending wrap, erasures blank cells, text is printed with
the VT100 deferred wrap (`Term.put`). Rows are unbounded downwards ("paper": no scrolling). -/
namespace RLV.Term
open RLV.Disp

def blank : Nat := 32

/-- `CSI n D` (`term.MoveCursorBackwards`): stops on the first column -/
def cub (t : Term) (n : Nat) : Term := { t with x := t.x - n, pw := false }
/-- `CSI n C` (`term.MoveCursorForwards`): stops on the last column -/
def cuf (t : Term) (n : Nat) : Term := { t with x := min (t.x + n) (t.w - 1), pw := false }
/-- `CSI n A` (`term.MoveCursorUp`): stops on the first row -/
def cuu (t : Term) (n : Nat) : Term := { t with y := t.y - n, pw := false }
/-- `CSI n B` (`term.MoveCursorDown`) -/
def cud (t : Term) (n : Nat) : Term := { t with y := t.y + n, pw := false }
/-- `\r\n` (`term.NewlineReturn`) -/
def crlf (t : Term) : Term := { t with x := 0, y := t.y + 1, pw := false }

/-- `CSI 0 K`: from the cursor to the end of the row -/
def el0 (t : Term) : Term :=
  { t with cell := fun r c => if r = t.y ∧ t.x ≤ c then blank else t.cell r c }
/-- `CSI 1 K`: from the start of the row to the cursor -/
def el1 (t : Term) : Term :=
  { t with cell := fun r c => if r = t.y ∧ c ≤ t.x then blank else t.cell r c }
/-- `CSI 0 J`: from the cursor to the end of the screen -/
def ed0 (t : Term) : Term :=
  { t with cell := fun r c => if (r = t.y ∧ t.x ≤ c) ∨ t.y < r then blank else t.cell r c }

def step (t : Term) : Tk → Term
  | .hide | .show_ | .dsr => t
  | .el0 => t.el0
  | .el1 => t.el1
  | .ed0 => t.ed0
  | .crlf => t.crlf
  | .cub n => t.cub n
  | .cuf n => t.cuf n
  | .cuu n => t.cuu n
  | .cud n => t.cud n
  | .text s => t.puts s

def run (t : Term) (toks : List Tk) : Term := toks.foldl step t

/-- tokens that change no cell -/
def isQuiet : Tk → Bool
  | .text _ | .el0 | .el1 | .ed0 => false
  | _ => true

def quietL (q : List Tk) : Bool := q.all isQuiet

end RLV.Term
