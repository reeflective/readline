namespace RLV

/-- VT100 "paper" model: unbounded rows, `w` columns, pending-wrap flag. -/
structure Term where
  w : Nat
  cell : Nat → Nat → Nat
  x : Nat
  y : Nat
  pw : Bool

namespace Term

/-- the states the model is meant for: `put` raises the pending wrap only with the cursor on the last column -/
def WF (t : Term) : Prop := 0 < t.w ∧ t.x < t.w ∧ (t.pw = true → t.x = t.w - 1)

/-- column / row the next glyph goes to -/
def nx (t : Term) : Nat := if t.pw then 0 else t.x
def ny (t : Term) : Nat := if t.pw then t.y + 1 else t.y

/-- linear index of the cell the next glyph goes to -/
def L (t : Term) : Nat := t.ny * t.w + t.nx

/-- a glyph of width 1 goes to the cell `ny`, `nx`; printed on the last column it leaves the cursor there, the wrap pending -/
def put (t : Term) (g : Nat) : Term :=
  { w := t.w
    cell := fun r c => if r = t.ny ∧ c = t.nx then g else t.cell r c
    x := if t.nx + 1 ≥ t.w then t.w - 1 else t.nx + 1
    y := t.ny
    pw := decide (t.nx + 1 ≥ t.w) }

def puts (t : Term) (gs : List Nat) : Term := gs.foldl put t

end Term
end RLV
