namespace RLV.Core

inductive Panic where
  | oob (what : String)
  /-- a reslice `s[:b]` with `len s < b`: Go panics only if `b > cap s`, and the capacity is not
  modelled, so the real code either panics or continues with stale backing-array contents.
  The correspondence check accepts either; no theorem treats this outcome as success. -/
  | beyond (what : String)
deriving Repr, DecidableEq

def Panic.show : Panic → String
  | .oob _ => "panic"
  | .beyond _ => "beyond"

/-- a Go function that may panic -/
abbrev G := Except Panic

/-- `core.Line`: the runes of the buffer -/
abbrev Line := List Nat

/-- `Line.Len`. An `Int`, as every position is: they are Go `int`s, which callers may leave negative. -/
def len (l : Line) : Int := l.length

/-- Go `l[a:]` -/
def from_ (l : Line) (a : Int) : G Line :=
  if a < 0 ∨ a > len l then .error (.oob "slice lo") else .ok (l.drop a.toNat)
/-- Go `l[:b]` (capacity approximated by length) -/
def upto (l : Line) (b : Int) : G Line :=
  if b < 0 then .error (.oob "slice hi") else if b > len l then .error (.beyond "slice hi")
  else .ok (l.take b.toNat)
/-- Go `l[i]` -/
def at_ (l : Line) (i : Int) : G Nat :=
  if i < 0 ∨ i ≥ len l then .error (.oob "index") else .ok (l.getD i.toNat 0)

/-- strip trailing NULs while more than one char remains (Line.Insert's loop) -/
def stripZerosAux : Nat → List Nat → List Nat
  | 0, cs => cs
  | n+1, cs => if cs.length > 1 ∧ cs.getLast? = some 0 then stripZerosAux n cs.dropLast else cs

def stripZeros (cs : List Nat) : List Nat := stripZerosAux cs.length cs

/-- `Line.Insert` -/
def insert (l : Line) (pos : Int) (chars : List Nat) : G Line := do
  let chars := stripZeros chars
  if pos < 0 ∨ pos > len l then return l
  if len l = 0 then return chars
  if pos < len l then
    let fwd ← from_ l pos
    let pre ← upto l pos
    return pre ++ chars ++ fwd
  else return l ++ chars

/-- `Line.checkRange` -/
def checkRange (l : Line) (b e : Int) : Int × Int × Bool :=
  if b = -1 ∧ e = -1 then (-1, -1, false) else
  let e := if e > len l then len l else e
  let b := if b < 0 then 0 else b
  if e > -1 ∧ e < b then (e, b, true) else (b, e, true)

/-- `Line.InsertBetween` -/
def insertBetween (l : Line) (b e : Int) (chars : List Nat) : G Line := do
  let (b, e, ok) := checkRange l b e
  if !ok then return l
  if e = -1 then insert l b chars
  else if e = len l then
    let pre ← upto l b
    return pre ++ chars
  else
    let fwd ← from_ l e
    let pre ← upto l b
    return pre ++ chars ++ fwd

/-- `Line.Cut` -/
def cut (l : Line) (b e : Int) : G Line := do
  let (b, e, ok) := checkRange l b e
  if !ok then return l
  if e = -1 then upto l b
  else
    let fwd ← from_ l e
    let pre ← upto l b
    return pre ++ fwd

/-- `Line.CutRune` -/
def cutRune (l : Line) (pos : Int) : G Line := do
  if pos < 0 ∨ pos > len l ∨ len l = 0 then return l
  if pos = 0 then from_ l 1
  else if pos = len l then upto l (pos - 1)
  else
    let fwd ← from_ l (pos + 1)
    let pre ← upto l pos
    return pre ++ fwd

/-- `core.Cursor` without its pointer to the line; `mark = -1`: no mark -/
structure Cur where
  pos : Int
  mark : Int
deriving Repr, DecidableEq

/-- `Cursor.CheckAppend`. `Cursor.Pos()` calls it before it returns the position, so asking for the position MOVES
the cursor into the buffer: that is why every `cursor.Pos()` of the code is `(checkAppend l c).pos` in the models,
and why a model goes on from the checked cursor after it. -/
def checkAppend (l : Line) (c : Cur) : Cur :=
  let pos := if c.pos < 0 then 0 else c.pos
  let pos := if pos > len l then len l else pos
  let mark := if c.mark < -1 then -1 else c.mark
  let mark := if mark > len l - 1 then -1 else mark
  ⟨pos, mark⟩

/-- `Cursor.OnEmptyLine` -/
def onEmptyLine (l : Line) (c : Cur) : G Bool := do
  if len l = 0 then return true
  if c.pos = 0 then return (← at_ l c.pos) == 10
  else if c.pos = len l then return (← at_ l (c.pos - 1)) == 10
  let u ← at_ l c.pos
  let b ← at_ l (c.pos - 1)
  return u == 10 && b == 10

/-- `Cursor.Char` -/
def charAt (l : Line) (c : Cur) : G Nat := do
  let c := checkAppend l c
  if len l = 0 then return 0
  if c.pos ≥ len l then return 0
  at_ l c.pos

/-- `Cursor.CheckCommand` -/
def checkCommand (l : Line) (c : Cur) : G Cur := do
  let c := checkAppend l c
  let c ← (do
    if c.pos = len l ∧ !(← onEmptyLine l c) then pure { c with pos := c.pos - 1 } else pure c)
  if len l > 0 ∧ c.pos < len l ∧ (← charAt l c) = 10 ∧ !(← onEmptyLine l c) then
    -- `c.Dec()`
    return { c with pos := if c.pos > 0 then c.pos - 1 else c.pos }
  return c

end RLV.Core
